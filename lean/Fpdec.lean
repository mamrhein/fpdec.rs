import Fpdec.Prim
import Fpdec.Gen.Consts
import Fpdec.Gen.Sites
import Fpdec.Model.Pinned
import Fpdec.Gen.Rt
import Fpdec.Gen.KRound
import Fpdec.Gen.KWide
import Fpdec.Gen.KLog
import Fpdec.Gen.KSwar
import Fpdec.Gen.KUnops
import Fpdec.Gen.KPow
import Fpdec.Gen.KDivRounded
import Fpdec.Gen.KDecDiv
import Fpdec.Gen.KDecMul
import Fpdec.Gen.KNorm
import Fpdec.Gen.KFloat
import Fpdec.Gen.KRem
import Fpdec.Gen.KFromStr
import Fpdec.Gen.KIntoFloat
import Fpdec.Gen.KIntOps
import Fpdec.Gen.KForward
import Fpdec.Gen.KIntConv
import Fpdec.Gen.KCmp
import Fpdec.Gen.KRatio
import Fpdec.Gen.KQuant
import Fpdec.Gen.KNumTraits
import Fpdec.Gen.KMisc
import Fpdec.Gen.KTls
import Fpdec.Gen.KFormat
import Fpdec.Gen.KParse
import Fpdec.Gen.KMagn
import Fpdec.Gen.KAddSub
import Fpdec.Gen.KDecRem
import Fpdec.Gen.KDecUnops
import Fpdec.Gen.KDecOps
import Fpdec.Gen.KDecRound
import Fpdec.Gen.KWideDiv
import Fpdec.Kernels.Attr
import Fpdec.Kernels.Basic
import Fpdec.Kernels.Round
import Fpdec.Kernels.Unary
import Fpdec.Kernels.Parse
import Fpdec.Kernels.Pow
import Fpdec.Kernels.MulDiv
import Fpdec.Kernels.Lib
import Fpdec.Kernels.FromFloat
import Fpdec.Kernels.Rem
import Fpdec.Kernels.FromStr
import Fpdec.Kernels.IntoFloat
import Fpdec.Kernels.Forward
import Fpdec.Kernels.IntConv
import Fpdec.Kernels.Cmp
import Fpdec.Kernels.Ratio
import Fpdec.Kernels.Quant
import Fpdec.Kernels.Misc
import Fpdec.Kernels.Format
import Fpdec.Kernels.AddSub
import Fpdec.Kernels.DecRound
import Fpdec.Kernels.WideDiv
import Fpdec.Kernels.WideSpecial
import Fpdec.Model.Core
import Fpdec.Model.Rounding
import Fpdec.Model.Decimal
import Fpdec.Model.Parser
import Fpdec.Model.Format
import Fpdec.Model.Ratio
import Fpdec.Spec.Float
import Fpdec.Model.Float
import Fpdec.Model.Threads
import Fpdec.Spec.Arith
import Fpdec.Spec.Text
import Fpdec.Spec.Allowed
import Fpdec.Lemmas.Basic
import Fpdec.Lemmas.Dom
import Fpdec.Props.C01
import Fpdec.Props.C02
import Fpdec.Props.C03
import Fpdec.Props.C04
import Fpdec.Props.C05
import Fpdec.Props.C06
import Fpdec.Props.C07
import Fpdec.Props.C08
import Fpdec.Props.C09
import Fpdec.Props.C10
import Fpdec.Props.C11
import Fpdec.Props.C12
import Fpdec.Props.C13
import Fpdec.Props.C14
import Fpdec.Props.C15
import Fpdec.Props.C16
import Fpdec.Props.C17
import Fpdec.Props.C18
import Fpdec.Props.C19
import Fpdec.Props.C20
