import Fpdec.Gen.Rt
import Fpdec.Lemmas.Post
import Fpdec.Lemmas.Bits

/-! # Integer types: an operation on a value in range does nothing to it

One statement per operation, for an arbitrary type: `fits`, `plain`, `wrap` / `cast` of an `IntTy`, and the plain operator
`Rt.plainU` of an unsigned type whose values are carried as `Nat` (`plainU8`, `plainU128` are `Rt.plainU 8`, `Rt.plainU 128` up to
unfolding).  The statements for particular types are instances with the bounds written as literals (`IntTy.i32.min` unfolds to
`-2147483648`), so that `omega` can discharge them where they are used. -/

namespace Fpdec

namespace IntTy

theorem fits_iff (t : IntTy) (x : Int) : t.fits x = true ↔ t.min ≤ x ∧ x ≤ t.max := by
  unfold fits; rw [Bool.and_eq_true, decide_eq_true_eq, decide_eq_true_eq]

theorem two_pow_bits (t : IntTy) (hb : 0 < t.bits) : (2 : Int) ^ t.bits = 2 ^ (t.bits - 1) + 2 ^ (t.bits - 1) := by
  rw [← Int.two_mul, ← Int.pow_succ', Nat.sub_add_cancel hb]

theorem wrap_of_fits (t : IntTy) (hb : 0 < t.bits) {x : Int} (h : t.fits x = true) : t.wrap x = x := by
  rw [fits_iff] at h
  unfold min max at h
  unfold wrap
  cases hs : t.signed <;> simp only [hs, if_true, Bool.false_eq_true, if_false] at h ⊢
  · exact Int.emod_eq_of_lt h.1 (Int.lt_of_le_sub_one h.2)
  · rw [t.two_pow_bits hb, Int.emod_eq_of_lt (Int.add_nonneg_iff_neg_le.mpr h.1) (Int.add_lt_add_right (Int.lt_of_le_sub_one h.2) _),
      Int.add_sub_cancel]

theorem fits_wrap (t : IntTy) (hb : 0 < t.bits) (x : Int) : t.fits (t.wrap x) = true := by
  have e := t.two_pow_bits hb
  have hp := pow2_pos t.bits
  rw [fits_iff]
  unfold min max wrap
  cases t.signed <;> simp only [if_true, Bool.false_eq_true, if_false]
  · exact ⟨Int.emod_nonneg _ (Int.ne_of_gt hp), Int.le_sub_one_of_lt (Int.emod_lt_of_pos _ hp)⟩
  · have h1 := Int.emod_nonneg (x + 2 ^ (t.bits - 1)) (Int.ne_of_gt hp)
    have h2 := Int.emod_lt_of_pos (x + 2 ^ (t.bits - 1)) hp
    generalize (x + 2 ^ (t.bits - 1)) % 2 ^ t.bits = m at h1 h2 ⊢
    omega

theorem plain_of_bounds (t : IntTy) (prof : Profile) {x : Int} (h0 : t.min ≤ x) (h1 : x ≤ t.max) : t.plain prof x = .ok x := by
  unfold plain; rw [if_pos ((fits_iff t x).mpr ⟨h0, h1⟩)]

theorem cast_of_bounds (t : IntTy) (hb : 1 ≤ t.bits) {x : Int} (h0 : t.min ≤ x) (h1 : x ≤ t.max) : t.cast x = x :=
  t.wrap_of_fits hb ((t.fits_iff x).mpr ⟨h0, h1⟩)

end IntTy

theorem i8_cast_id {x : Int} (h0 : -128 ≤ x) (h1 : x ≤ 127) : IntTy.i8.cast x = x := IntTy.cast_of_bounds .i8 (by decide) h0 h1

theorem u8_cast_id {x : Int} (h0 : 0 ≤ x) (h1 : x ≤ 255) : IntTy.u8.cast x = x := IntTy.cast_of_bounds .u8 (by decide) h0 h1

theorem i16_cast_id {x : Int} (h0 : -32768 ≤ x) (h1 : x ≤ 32767) : IntTy.i16.cast x = x :=
  IntTy.cast_of_bounds .i16 (by decide) h0 h1

theorem i32_cast_id {x : Int} (h0 : -2147483648 ≤ x) (h1 : x ≤ 2147483647) : IntTy.i32.cast x = x :=
  IntTy.cast_of_bounds .i32 (by decide) h0 h1

theorem u32_cast_id {x : Int} (h0 : 0 ≤ x) (h1 : x ≤ 4294967295) : IntTy.u32.cast x = x :=
  IntTy.cast_of_bounds .u32 (by decide) h0 h1

theorem u64_cast_id {x : Int} (h0 : 0 ≤ x) (h1 : x ≤ 18446744073709551615) : IntTy.u64.cast x = x :=
  IntTy.cast_of_bounds .u64 (by decide) h0 h1

theorem isize_cast_id {x : Int} (h0 : -9223372036854775808 ≤ x) (h1 : x ≤ 9223372036854775807) : IntTy.isize.cast x = x :=
  IntTy.cast_of_bounds .isize (by decide) h0 h1

theorem usize_cast_id {x : Int} (h0 : 0 ≤ x) (h1 : x ≤ 18446744073709551615) : IntTy.usize.cast x = x :=
  IntTy.cast_of_bounds .usize (by decide) h0 h1

theorem i128_cast_id {x : Int} (h0 : I128_MIN ≤ x) (h1 : x ≤ I128_MAX) : IntTy.i128.cast x = x :=
  IntTy.cast_of_bounds .i128 (by decide) h0 h1

theorem cast_u128_nonneg {x : Int} (h0 : 0 ≤ x) (h1 : x ≤ I128_MAX) : IntTy.u128.cast x = x :=
  IntTy.cast_of_bounds .u128 (by decide) h0 (Int.le_trans h1 (by decide))

/-- the test `x > i128::MAX as u128` of a `u128` -/
theorem gt_u128_cast_max (x : Nat) : x > (IntTy.u128.cast I128_MAX).toNat ↔ (x : Int) > I128_MAX := by
  rw [cast_u128_nonneg (by decide) (Int.le_refl _)]
  exact Int.toNat_lt (by decide)

theorem i8_plain_ok (prof : Profile) {x : Int} (h0 : -128 ≤ x) (h1 : x ≤ 127) : IntTy.i8.plain prof x = .ok x :=
  IntTy.plain_of_bounds .i8 prof h0 h1

theorem i16_plain_ok (prof : Profile) {x : Int} (h0 : -32768 ≤ x) (h1 : x ≤ 32767) : IntTy.i16.plain prof x = .ok x :=
  IntTy.plain_of_bounds .i16 prof h0 h1

theorem i32_plain_ok (prof : Profile) {x : Int} (h0 : -2147483648 ≤ x) (h1 : x ≤ 2147483647) :
    IntTy.i32.plain prof x = .ok x :=
  IntTy.plain_of_bounds .i32 prof h0 h1

theorem u64_plain_ok (prof : Profile) {x : Int} (h0 : 0 ≤ x) (h1 : x ≤ 18446744073709551615) : IntTy.u64.plain prof x = .ok x :=
  IntTy.plain_of_bounds .u64 prof h0 h1

theorem isize_plain_ok (prof : Profile) {x : Int} (h0 : -9223372036854775808 ≤ x) (h1 : x ≤ 9223372036854775807) :
    IntTy.isize.plain prof x = .ok x :=
  IntTy.plain_of_bounds .isize prof h0 h1

theorem plainU_of_bounds (bits : Nat) (prof : Profile) {x : Int} (h0 : 0 ≤ x) (h1 : x < 2 ^ bits) :
    Rt.plainU bits prof x = .ok x.toNat :=
  if_pos ⟨h0, h1⟩

theorem plainU_ok (bits : Nat) (prof : Profile) {x : Int} {n : Nat} (h : x = n) (hn : n < 2 ^ bits) :
    Rt.plainU bits prof x = .ok n := by
  subst h
  exact plainU_of_bounds bits prof (Int.natCast_nonneg n) (by exact_mod_cast hn)

theorem plainU_add (bits : Nat) (prof : Profile) (a b : Nat) (h : a + b < 2 ^ bits) :
    Rt.plainU bits prof ((a : Int) + (b : Int)) = .ok (a + b) :=
  plainU_ok bits prof (Int.natCast_add a b).symm h

theorem plainU_sub (bits : Nat) (prof : Profile) {a b : Nat} (ha : a < 2 ^ bits) (h : b ≤ a) :
    Rt.plainU bits prof ((a : Int) - (b : Int)) = .ok (a - b) :=
  plainU_ok bits prof (Int.natCast_sub h).symm (Nat.lt_of_le_of_lt (Nat.sub_le a b) ha)

theorem plainU128_nat (prof : Profile) {n : Nat} (h : n < 340282366920938463463374607431768211456) :
    plainU128 prof (n : Int) = .ok n :=
  plainU_ok 128 prof rfl h

theorem plainU8_ok (prof : Profile) {x : Int} (h0 : 0 ≤ x) (h1 : x ≤ 255) : plainU8 prof x = .ok x.toNat :=
  plainU_of_bounds 8 prof h0 (Int.lt_add_one_iff.mpr h1)

theorem plainU8_add (prof : Profile) (a b : Nat) (h : a + b ≤ 255) : plainU8 prof ((a : Int) + (b : Int)) = .ok (a + b) :=
  plainU_add 8 prof a b (Nat.lt_succ_of_le h)

/-- `P` is the literal as it stands in the text (`127 - msb`) -/
theorem plainU8_natSub (prof : Profile) (p q : Nat) (P : Int) (hP : P = (p : Int)) (hp : p ≤ 255) (h : q ≤ p) :
    plainU8 prof (P - q) = .ok (p - q) :=
  hP ▸ plainU_sub 8 prof (Nat.lt_succ_of_le hp) h

/-! what a plain operator returns is a value of its type -/

theorem plainU_lt (bits : Nat) (prof : Profile) (x : Int) : Post (Rt.plainU bits prof x) (· < 2 ^ bits) := by
  have hp := pow2_pos bits
  have key : ∀ z : Int, 0 ≤ z → z < 2 ^ bits → z.toNat < 2 ^ bits := fun z h0 h1 => by
    have h : (z.toNat : Int) < 2 ^ bits := (Int.toNat_of_nonneg h0).symm ▸ h1
    exact_mod_cast h
  unfold Rt.plainU
  exact .ite (fun h => .ok (key x h.1 h.2)) fun _ => .ite (fun _ => .panic) fun _ =>
    .ok (key _ (Int.emod_nonneg _ (Int.ne_of_gt hp)) (Int.emod_lt_of_pos _ hp))

theorem plain_fits (t : IntTy) (hb : 0 < t.bits) (prof : Profile) (x : Int) : Post (t.plain prof x) (t.fits · = true) := by
  unfold IntTy.plain
  exact .ite (fun h => .ok h) fun _ => .ite (fun _ => .panic) fun _ => .ok (t.fits_wrap hb x)

theorem plainU8_lt (prof : Profile) (x : Int) : Post (plainU8 prof x) (· < 256) := plainU_lt 8 prof x

end Fpdec
