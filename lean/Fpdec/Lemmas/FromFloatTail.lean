import Fpdec.Lemmas.FromFloatRational
import Fpdec.Lemmas.Bits

/-!
# `TryFrom<f64/f32>`: everything after the decode step, against the spec's rounding of `n/den`
-/

namespace Fpdec
open Fpdec.Model

/-- the part of `tryFromFloat` after the decode step (same code, `f.expBits = 11` abstracted) -/
def fromFloatTail (prof : Profile) (is64 : Prop) [Decidable is64] (significand : Nat) (exponent sign : Int) :
    Outcome (Except FloatErr Dec) := do
  if exponent < Gen.FROM_FLT_MIN_EXP then return .ok Dec.ZERO
  if exponent < 0 then do
    let numer ← plainI128 prof (sign * significand)
    let denom := IntTy.i128.cast ((2 : Int) ^ (-exponent).toNat)
    let (c, n) ← approxRational prof numer denom
    return .ok ⟨c, n⟩
  if is64 ∧ exponent ≥ 128 then return .error .overflow
  let numer ← plainI128 prof (sign * significand)
  if exponent.toNat ≥ 128 then (if prof.oc then .panic .arith else pure ()) else pure ()
  let shift := IntTy.i128.cast ((2 : Int) ^ (exponent.toNat % 128))
  match checkedI128 (numer * shift) with
  | some c => return .ok ⟨c, 0⟩
  | none => return .error .overflow

theorem tryFromFloat_eq (prof : Profile) (f : Spec.FloatFmt) (bits : Nat) :
    tryFromFloat prof f bits =
      if (bits >>> f.fracBits) &&& (2 ^ f.expBits - 1) = 2 ^ f.expBits - 1 ∧ bits &&& (2 ^ f.fracBits - 1) = 0 then
        .ok (.error .infinite)
      else if (bits >>> f.fracBits) &&& (2 ^ f.expBits - 1) = 2 ^ f.expBits - 1 then .ok (.error .nan)
      else floatDecode f bits >>= fun x => fromFloatTail prof (f.expBits = 11) x.1 x.2.1 x.2.2 := by
  rfl

/-- the spec's verdict on a normalised rounded coefficient -/
def expOf (c : Int) (k : Nat) : Spec.FromFloatExp :=
  if c = I128_MIN then .valOrOvf c k else if fitsI128 c = true then .val c k else .overflow

/-- the spec's answer for the exact value `n/den` -/
def specOf (n den : Int) : Spec.FromFloatExp :=
  expOf (Spec.normalizeSpec 19 (Spec.specRound .heven (n * 10 ^ 18) den) 18).1
    (Spec.normalizeSpec 19 (Spec.specRound .heven (n * 10 ^ 18) den) 18).2

/-- `Spec.fromFloat` with its `let`s removed (`I128_MIN`, `fitsI128` for `-2^127`, `Spec.fits`) -/
theorem fromFloat_eq (f : Spec.FloatFmt) (bits : Nat) :
    Spec.fromFloat f bits =
      if (bits >>> f.fracBits) % 2 ^ f.expBits = 2 ^ f.expBits - 1 then
        (if bits % 2 ^ f.fracBits = 0 then .infinite else .nan)
      else
        specOf (if (bits >>> (f.bits - 1)) % 2 = 1 then -((Spec.decodeBits f (bits % 2 ^ (f.bits - 1))).1 : Int)
                else ((Spec.decodeBits f (bits % 2 ^ (f.bits - 1))).1 : Int))
          ((Spec.decodeBits f (bits % 2 ^ (f.bits - 1))).2 : Int) := by
  unfold Spec.fromFloat specOf expOf I128_MIN
  simp only [pow2_127, spec_fits_eq]

/-- What `Decimal::try_from` returns where the spec prescribes `e`.  At `-2^127`, where the spec leaves value-or-overflow open,
    it is the value: `numer * shift` is then `-2^52 · 2^75` (`-2^23 · 2^104`), which `checked_mul` accepts. -/
def toResult : Spec.FromFloatExp → Except FloatErr Dec
  | .infinite => .error .infinite
  | .nan => .error .nan
  | .overflow => .error .overflow
  | .val c k => .ok ⟨c, k⟩
  | .valOrOvf c k => .ok ⟨c, k⟩

theorem toResult_expOf (c : Int) (k : Nat) :
    toResult (expOf c k) = if fitsI128 c = true then .ok ⟨c, k⟩ else .error .overflow := by
  unfold expOf
  by_cases hc : c = I128_MIN
  · subst hc; rfl
  · rw [if_neg hc]; split <;> rfl

/-- a conversion that returns a Decimal returns the one the spec names -/
theorem toResult_expOf_eq_ok {c : Int} {k : Nat} {d : Dec}
    (h : (.ok (toResult (expOf c k)) : Outcome (Except FloatErr Dec)) = .ok (.ok d)) : fitsI128 c = true ∧ d = ⟨c, k⟩ := by
  rw [toResult_expOf] at h
  split at h
  · rename_i hfit; injection h with h; injection h with h; exact ⟨hfit, h.symm⟩
  · injection h with h; cases h

/-- the opposite value gets the opposite coefficient and the same scale: half-even rounding is symmetric, and the same zeros are
    stripped -/
theorem specOf_neg (n den : Int) (hden : 0 < den) :
    ∃ (c : Int) (k : Nat), specOf n den = expOf c k ∧ specOf (-n) den = expOf (-c) k := by
  refine ⟨_, _, rfl, ?_⟩
  unfold specOf
  rw [Int.neg_mul, heven_neg _ _ hden, normalizeSpec_neg]

/-- a numerator below `2^53` over a power of two `≥ 2^127` is below half a unit of the 18th digit -/
theorem specOf_tiny_pow (n : Int) (m : Nat) (hn1 : -9007199254740992 < n) (hn2 : n < 9007199254740992)
    (hm : 127 ≤ m) : specOf n ((2 : Int) ^ m) = .val 0 0 := by
  have hp := pow2_mono hm
  rw [pow2_127] at hp
  unfold specOf
  rw [heven_tiny _ _ (by rw [pow10_18]; omega) (by rw [pow10_18]; omega)]
  rfl

/-- a value that is an integer (the fraction need not be in lowest terms): nothing to round, only the 18 zeros to strip -/
theorem specOf_dvd (n den : Int) (hden : 0 < den) (h : den ∣ n) : specOf n den = expOf (n / den) 0 := by
  obtain ⟨k, rfl⟩ := h
  have h1 : Spec.specRound .heven (den * k * 10 ^ 18) den = k * 10 ^ 18 := by
    rw [Int.mul_comm den, Int.mul_right_comm]; exact specRound_exact_mul _ _ _ hden
  have h2 : Spec.normalizeSpec 19 (k * 10 ^ 18) 18 = (k, 0) := by
    by_cases hk : k = 0
    · subst hk; rfl
    · rw [normalizeSpec_strip k hk 18 1 0]
      unfold Spec.normalizeSpec; simp [hk]
  unfold specOf
  rw [h1, h2, Int.mul_ediv_cancel_left _ (Int.ne_of_gt hden)]

theorem min_exp : Gen.FROM_FLT_MIN_EXP = -126 := rfl

/-- zero and subnormals: decode gives `(0, 0, 0)` -/
theorem tail_zero (prof : Profile) (is64 : Prop) [Decidable is64] :
    fromFloatTail prof is64 0 0 0 = .ok (.ok ⟨0, 0⟩) := by
  unfold fromFloatTail
  have f0 : fitsI128 0 = true := by decide
  have c0 : checkedI128 0 = some 0 := checkedI128_some f0
  simp [min_exp, plainI128_ok prof f0, c0]

theorem tail_tiny (prof : Profile) (is64 : Prop) [Decidable is64] (S : Nat) (e sg : Int) (he : e < -126) :
    fromFloatTail prof is64 S e sg = .ok (.ok ⟨0, 0⟩) := by
  unfold fromFloatTail
  simp only [min_exp, he, if_true, Outcome.pure_eq]
  rfl

theorem signed_bounds {S : Nat} {sg : Int} (hS : S < 9007199254740992) (hsg : sg = 1 ∨ sg = -1) :
    -9007199254740992 < sg * (S : Int) ∧ sg * (S : Int) < 9007199254740992 ∧ fitsI128 (sg * (S : Int)) = true := by
  rw [fitsI128_iff]; unfold I128_MIN I128_MAX
  rcases hsg with h | h <;> rw [h] <;> omega

theorem tail_frac (prof : Profile) (is64 : Prop) [Decidable is64] (S : Nat) (e sg : Int)
    (hS0 : 0 < S) (hS : S < 9007199254740992) (hsg : sg = 1 ∨ sg = -1) (he1 : -126 ≤ e) (he2 : e < 0) :
    fromFloatTail prof is64 S e sg = .ok (toResult (specOf (sg * S) ((2 : Int) ^ (-e).toNat))) := by
  obtain ⟨m, hm, hm1, hm2⟩ : ∃ m : Nat, (-e).toNat = m ∧ 1 ≤ m ∧ m ≤ 126 := ⟨_, rfl, by omega, by omega⟩
  have hp1 := pow2_mono hm1
  have hp2 := pow2_mono hm2
  rw [pow2_126] at hp2
  rw [Int.pow_one] at hp1
  obtain ⟨hn1, hn2, fn⟩ := signed_bounds hS hsg
  have hn0 : sg * (S : Int) ≠ 0 := by rcases hsg with h | h <;> rw [h] <;> omega
  have hcast : IntTy.i128.cast ((2 : Int) ^ m) = (2 : Int) ^ m :=
    i128_cast_id (by unfold I128_MIN; omega) (by unfold I128_MAX; omega)
  -- the rounded coefficient lies between `±2^53·10^18` and zero, and stripping zeros does not enlarge it
  have hN : -9007199254740992000000000000000000 < sg * S * 10 ^ 18 ∧ sg * S * 10 ^ 18 < 9007199254740992000000000000000000 := by
    rw [pow10_18]; omega
  have hb := specRound_between .heven (sg * S * 10 ^ 18) ((2 : Int) ^ m) (pow2_pos m)
  have hle := normalizeSpec_natAbs_le 19 (Spec.specRound .heven (sg * S * 10 ^ 18) ((2 : Int) ^ m)) 18 (by decide)
  have hfit : fitsI128 (Spec.normalizeSpec 19 (Spec.specRound .heven (sg * S * 10 ^ 18) ((2 : Int) ^ m)) 18).1 = true := by
    rw [fitsI128_iff]; unfold I128_MIN I128_MAX; omega
  unfold fromFloatTail specOf
  rw [hm, toResult_expOf, if_pos hfit]
  simp only [min_exp, show ¬ e < -126 by omega, if_false, he2, if_true, plainI128_ok prof fn, Outcome.bind_ok, hcast,
    approxRational_spec prof (sg * S) ((2 : Int) ^ m) hp1 hp2 hn0 hn1 hn2, Outcome.pure_eq]

theorem tail_int_eq (prof : Profile) (is64 : Prop) [Decidable is64] (S : Nat) (e sg : Int)
    (h2 : 0 ≤ e) (hk : e < 128) (fn : fitsI128 (sg * S) = true) :
    fromFloatTail prof is64 S e sg =
      .ok (if fitsI128 (sg * S * IntTy.i128.cast ((2 : Int) ^ e.toNat)) = true
            then .ok ⟨sg * S * IntTy.i128.cast ((2 : Int) ^ e.toNat), 0⟩ else .error .overflow) := by
  unfold fromFloatTail
  rw [if_neg (by rw [min_exp]; omega), if_neg (by omega), if_neg (fun h => by omega), plainI128_ok prof fn, Outcome.bind_ok]
  simp only []
  rw [if_neg (by omega), Nat.mod_eq_of_lt (by omega)]
  generalize sg * S * IntTy.i128.cast ((2 : Int) ^ e.toNat) = x
  unfold checkedI128
  by_cases hf : fitsI128 x = true
  · rw [if_pos hf, if_pos hf]; rfl
  · rw [if_neg hf, if_neg hf]; rfl

/-- `exponent ≥ 0`: the exact value if it fits, overflow if not — decided by `checked_mul`, so that `-2^127` is a value.
    (`1 << 127` is `i128::MIN`; with a significand `≥ 2` the product overflows like the true value does.) -/
theorem tail_int (prof : Profile) (is64 : Prop) [Decidable is64] (S : Nat) (e sg : Int)
    (hS0 : 2 ≤ S) (hS : S < 9007199254740992) (hsg : sg = 1 ∨ sg = -1) (he : 0 ≤ e) (h32 : ¬ is64 → e < 128) :
    fromFloatTail prof is64 S e sg = .ok (toResult (specOf (sg * S * (2 : Int) ^ e.toNat) 1)) := by
  obtain ⟨_, _, fn⟩ := signed_bounds hS hsg
  -- from `2^127` on the value does not fit, and neither does its opposite
  have hbig : ∀ P : Int, 170141183460469231731687303715884105728 ≤ P →
      fitsI128 (sg * (S : Int) * P) = false ∧ fitsI128 (sg * (S : Int) * -P) = false := by
    intro P hP
    have hSP : 2 * P ≤ (S : Int) * P := Int.mul_le_mul_of_nonneg_right (by omega) (by omega)
    simp only [Bool.eq_false_iff, Ne, fitsI128_iff]; unfold I128_MIN I128_MAX
    rcases hsg with h | h <;> rw [h] <;> simp only [Int.one_mul, Int.neg_mul, Int.mul_neg, Int.neg_neg] <;> omega
  rw [specOf_dvd _ 1 Int.one_pos (Int.one_dvd _), Int.ediv_one, toResult_expOf]
  by_cases h128 : 128 ≤ e
  · have h64 : is64 := Decidable.byContradiction fun h => by have := h32 h; omega
    have hP := pow2_mono (show 127 ≤ e.toNat by omega)
    rw [pow2_127] at hP
    rw [(hbig _ hP).1]
    unfold fromFloatTail
    simp only [min_exp, show ¬ e < -126 by omega, show ¬ e < 0 by omega, if_false, h64, h128, ge_iff_le, and_self, if_true,
      Outcome.pure_eq, Bool.false_eq_true]
  · rw [tail_int_eq prof is64 S e sg he (by omega) fn]
    by_cases h127 : e.toNat = 127
    · have hcast : IntTy.i128.cast ((2 : Int) ^ 127) = -170141183460469231731687303715884105728 := by
        unfold IntTy.cast IntTy.wrap IntTy.i128
        simp only [if_true]
        rw [show (2 : Int) ^ (128 - 1) = _ from pow2_127, pow2_128]; omega
      rw [h127, hcast, pow2_127, (hbig _ (Int.le_refl _)).1, (hbig _ (Int.le_refl _)).2, if_neg Bool.false_ne_true, if_neg Bool.false_ne_true]
    · have hP0 := pow2_pos e.toNat
      have hP := pow2_mono (show e.toNat ≤ 126 by omega)
      rw [pow2_126] at hP
      rw [i128_cast_id (by unfold I128_MIN; omega) (by unfold I128_MAX; omega)]

end Fpdec
