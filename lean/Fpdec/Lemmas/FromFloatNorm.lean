import Fpdec.Lemmas.Rounding
import Fpdec.Spec.Float
import Fpdec.Model.Float
import Mathlib.Tactic.Ring
import Mathlib.Tactic.Linarith

/-!
# `normalize` (model) against `Spec.normalizeSpec`
-/

namespace Fpdec
open Fpdec.Model

/-- the model's loop and the spec's recursion agree as soon as both have enough fuel -/
theorem normalize_go_eq : ∀ (fuel1 : Nat) (c : Int) (p fuel2 : Nat), c ≠ 0 → p ≤ fuel1 → p ≤ fuel2 →
    normalize.go fuel1 c p = Spec.normalizeSpec fuel2 c p := by
  intro fuel1
  induction fuel1 with
  | zero =>
    intro c p fuel2 hc h1 h2
    have hp : p = 0 := by omega
    subst hp
    unfold normalize.go
    cases fuel2 with
    | zero => rfl
    | succ f2 => unfold Spec.normalizeSpec; simp [hc]
  | succ f1 ih =>
    intro c p fuel2 hc h1 h2
    unfold normalize.go
    by_cases hcond : c.tmod 10 = 0 ∧ p > 0
    · have hmod : c % 10 = 0 := (tmod_zero_iff c 10).mp hcond.1
      have hdvd : (10 : Int) ∣ c := Int.dvd_of_emod_eq_zero hmod
      obtain ⟨f2, rfl⟩ : ∃ f2, fuel2 = f2 + 1 := ⟨fuel2 - 1, by omega⟩
      have hc' : c / 10 ≠ 0 := by omega
      simp only [hcond, and_self, if_true]
      unfold Spec.normalizeSpec
      have hcond2 : p > 0 ∧ c % 10 = 0 := ⟨hcond.2, hmod⟩
      simp only [hc, if_false, hcond2, and_self, if_true]
      rw [Int.tdiv_eq_ediv_of_dvd hdvd]
      exact ih (c / 10) (p - 1) f2 hc' (by omega) (by omega)
    · simp only [hcond, if_false]
      have hcond2 : ¬ (p > 0 ∧ c % 10 = 0) := by
        intro h; exact hcond ⟨(tmod_zero_iff c 10).mpr h.2, h.1⟩
      cases fuel2 with
      | zero => rfl
      | succ f2 => unfold Spec.normalizeSpec; simp only [hc, if_false, hcond2]

theorem normalize_eq_normalizeSpec (c : Int) (p fuel : Nat) (h : p < fuel) :
    normalize c p = Spec.normalizeSpec fuel c p := by
  unfold normalize
  by_cases hc : c = 0
  · subst hc
    obtain ⟨f2, rfl⟩ : ∃ f2, fuel = f2 + 1 := ⟨fuel - 1, by omega⟩
    simp [Spec.normalizeSpec]
  · simp only [hc, if_false]
    exact normalize_go_eq p c p fuel hc (Nat.le_refl _) (by omega)

theorem normalizeSpec_strip (c : Int) (hc : c ≠ 0) : ∀ (m fuel p : Nat),
    Spec.normalizeSpec (fuel + m) (c * 10 ^ m) (p + m) = Spec.normalizeSpec fuel c p := by
  intro m
  induction m with
  | zero => intro fuel p; simp
  | succ m ih =>
    intro fuel p
    have e1 : fuel + (m + 1) = (fuel + m) + 1 := by omega
    have hne : c * 10 ^ (m + 1) ≠ 0 := Int.mul_ne_zero hc (Int.ne_of_gt (pow10_pos _))
    have hmod : c * 10 ^ (m + 1) % 10 = 0 := by
      rw [Int.pow_succ, ← Int.mul_assoc]; exact Int.mul_emod_left _ _
    have hdiv : c * 10 ^ (m + 1) / 10 = c * 10 ^ m := by
      rw [Int.pow_succ, ← Int.mul_assoc]; exact Int.mul_ediv_cancel _ (by decide)
    rw [e1]
    conv => lhs; unfold Spec.normalizeSpec
    have hcond : p + (m + 1) > 0 ∧ c * 10 ^ (m + 1) % 10 = 0 := ⟨by omega, hmod⟩
    simp only [hne, if_false, hcond, and_self, if_true, hdiv]
    have e2 : p + (m + 1) - 1 = p + m := by omega
    rw [e2]
    exact ih fuel p

theorem normalizeSpec_spec : ∀ (fuel : Nat) (c : Int) (p : Nat), p < fuel →
    (Spec.normalizeSpec fuel c p).2 ≤ p ∧
    (Spec.normalizeSpec fuel c p).1 * (10 : Int) ^ (p - (Spec.normalizeSpec fuel c p).2) = c ∧
    ((Spec.normalizeSpec fuel c p).2 > 0 → (Spec.normalizeSpec fuel c p).1 % 10 ≠ 0)
  | 0, c, p, h => absurd h (Nat.not_lt_zero _)
  | fuel + 1, c, p, h => by
    unfold Spec.normalizeSpec
    by_cases hc : c = 0
    · simp [hc]
    · simp only [hc, if_false]
      by_cases hz : p > 0 ∧ c % 10 = 0
      · simp only [hz, and_self, if_true]
        obtain ⟨i1, i2, i3⟩ := normalizeSpec_spec fuel (c / 10) (p - 1) (by omega)
        refine ⟨by omega, ?_, i3⟩
        have e : p - (Spec.normalizeSpec fuel (c / 10) (p - 1)).2 = (p - 1 - (Spec.normalizeSpec fuel (c / 10) (p - 1)).2) + 1 := by
          omega
        rw [e, Int.pow_succ, ← Int.mul_assoc, i2]
        omega
      · simp only [hz, if_false]
        refine ⟨Nat.le_refl _, by simp, fun hp => ?_⟩
        intro h10; exact hz ⟨hp, h10⟩

theorem normalizeSpec_neg : ∀ (fuel : Nat) (c : Int) (p : Nat),
    Spec.normalizeSpec fuel (-c) p = (-(Spec.normalizeSpec fuel c p).1, (Spec.normalizeSpec fuel c p).2)
  | 0, c, p => by simp [Spec.normalizeSpec]
  | fuel + 1, c, p => by
    unfold Spec.normalizeSpec
    by_cases hc : c = 0
    · simp [hc]
    · have hc' : -c ≠ 0 := by omega
      simp only [hc, hc', if_false]
      by_cases hz : p > 0 ∧ c % 10 = 0
      · have hz' : p > 0 ∧ (-c) % 10 = 0 := ⟨hz.1, by omega⟩
        have e : (-c) / 10 = -(c / 10) := by omega
        rw [if_pos hz, if_pos hz', e]
        exact normalizeSpec_neg fuel (c / 10) (p - 1)
      · have hz' : ¬ (p > 0 ∧ (-c) % 10 = 0) := by
          intro h; exact hz ⟨h.1, by omega⟩
        rw [if_neg hz, if_neg hz']

theorem normalizeSpec_natAbs_le (fuel : Nat) (c : Int) (p : Nat) (h : p < fuel) :
    (Spec.normalizeSpec fuel c p).1.natAbs ≤ c.natAbs := by
  obtain ⟨_, h2, _⟩ := normalizeSpec_spec fuel c p h
  conv => rhs; rw [← h2, Int.natAbs_mul, Int.natAbs_pow]
  exact Nat.le_mul_of_pos_right _ (Nat.pow_pos (by decide))

end Fpdec
