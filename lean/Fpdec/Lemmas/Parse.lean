import Fpdec.Lemmas.ParseFinal

/-!
# C06 — the literal parser (Fpdec/Model/Parser.lean) against the reference grammar `Spec.parseSpec` (Fpdec/Spec/Text.lean)

Strings are lists of bytes (`Nat < 256`).  The hypothesis `s.length < 2^56` is needed because the exponent accumulator
saturates at `isize::MAX / 100` (see `EXP_LIMIT`): with it no isize operation overflows and saturation never changes the verdict.
-/

namespace Fpdec.ParseAux
open Fpdec Fpdec.Model

theorem sFinal_big (neg : Bool) (D : Nat) (f e : Int) (h : (D : Int) > I128_MAX) : sFinal neg D f e = .bad := by
  have hD : ¬ (D : Int) ≤ 2 ^ 127 - 1 := by rw [pow2_127]; unfold I128_MAX at h; omega
  have hC : ¬ ((D * 10 ^ (e - f).toNat : Nat) : Int) ≤ 2 ^ 127 - 1 := fun hc =>
    hD (Int.le_trans (Int.ofNat_le.mpr (Nat.le_mul_of_pos_right _ (Nat.pow_pos (by decide)))) hc)
  rw [sFinal, if_neg (show D ≠ 0 by rintro rfl; exact hD (by decide)), if_neg hC, if_neg hD]
  simp only [ite_self]

theorem sRest_big (neg : Bool) (D : Nat) (f : Int) (x : Option (Int × List Nat)) (h : (D : Int) > I128_MAX) :
    sRest neg D f x = .bad := by
  rcases x with _ | ⟨e, _ | _⟩
  · rfl
  · exact sFinal_big neg D f e h
  · rfl

/-- the overflow test on the saturated coefficient is the test on the true one, which below it is the saturated one -/
theorem sat_overflow (D : Nat) :
    (((min D M128 : Nat) : Int) > I128_MAX ↔ (D : Int) > I128_MAX) ∧ (¬ (D : Int) > I128_MAX → min D M128 = D) := by
  rcases Nat.le_total D M128 with h | h
  · rw [Nat.min_eq_left h]
    exact ⟨Iff.rfl, fun _ => rfl⟩
  · rw [Nat.min_eq_right h]
    unfold M128 U128_MOD I128_MAX at *
    omega

theorem body_agree (prof : Profile) (neg : Bool) (t : List Nat) (hb : ∀ x ∈ t, x < 256)
    (hlen : t.length < 2 ^ 56) :
    agree (sBody neg t) (fTail prof (mBody prof neg t)) := by
  obtain ⟨n, hz⟩ := skip_spec t
  unfold sBody mBody
  generalize skipLeadingZeroes t = t' at hz ⊢
  subst hz
  rw [List.length_append, List.length_replicate] at hlen
  have hbt' : ∀ x ∈ t', x < 256 := fun x hx => hb x (List.mem_append_right _ hx)
  rw [span_prefix _ _ (zeros_digits n)]
  simp only
  cases t' with
  | nil =>
    cases n with
    | zero => exact agree_bad .invalid (by decide)
    | succ n =>
      rw [sTail, if_neg (by simp), List.append_assoc, digitsVal_zeros_append, if_neg (by simp)]
      exact agree_ok 0 0
  | cons c cs =>
    have hc1 : accumCoeff 0 (c :: cs) = _ := accumCoeff_gen 0 (c :: cs) hbt'
    have hbr1 : ∀ x ∈ (Spec.spanDigits (c :: cs)).2, x < 256 := fun x hx => hbt' x ((span_suffix _).subset hx)
    have hl1 := span_length (c :: cs)
    have hl2 := (sFrac_suffix (Spec.spanDigits (c :: cs)).2).length_le
    have hbr2 : ∀ x ∈ (sFrac (Spec.spanDigits (c :: cs)).2).2.1, x < 256 := fun x hx =>
      hbr1 x ((sFrac_suffix _).subset (List.mem_append_right _ hx))
    rw [if_neg (by simp), if_neg (by simp), hc1]
    simp only
    rw [mFrac_spec _ _ hbr1, ← pushDigits_append, sTail, List.append_assoc, digitsVal_zeros_append]
    simp only
    generalize (Spec.spanDigits (c :: cs)).1 = ip at *
    generalize sFrac (Spec.spanDigits (c :: cs)).2 = fr at *
    obtain ⟨fp, s, _⟩ := fr
    simp only [List.length_append] at hl2 hbr2 ⊢
    show agree _ (fTail prof (if _ then _ else if ((min (Spec.digitsVal (ip ++ fp)) M128 : Nat) : Int) > I128_MAX then _ else
      mTail prof neg (min (Spec.digitsVal (ip ++ fp)) M128) _ _))
    generalize Spec.digitsVal (ip ++ fp) = D
    -- the grammar's "no digits" is the model's "nothing accumulated and no zero skipped"
    have hnd : ((List.replicate n 48 ++ ip).isEmpty = true ∧ fp.isEmpty = true) ↔
        (ip.length + fp.length = 0 ∧ (!decide ((c :: cs).length < (List.replicate n 48).length + (c :: cs).length)) = true) := by
      simp only [List.isEmpty_iff_length_eq_zero, List.length_append, List.length_replicate, Bool.not_eq_true',
        decide_eq_false_iff_not]
      omega
    by_cases h : (List.replicate n 48 ++ ip).isEmpty = true ∧ fp.isEmpty = true
    · rw [if_pos h, if_pos (hnd.mp h)]
      exact agree_bad .invalid (by decide)
    · rw [if_neg h, if_neg (mt hnd.mpr h)]
      obtain ⟨h1, h2⟩ := sat_overflow D
      by_cases hbig : (D : Int) > I128_MAX
      · rw [if_pos (h1.mpr hbig), sRest_big neg D _ _ hbig]
        exact agree_bad .overflow (by decide)
      · rw [if_neg (mt h1.mp hbig), h2 hbig]
        exact rest_agree prof neg D fp.length s hbr2 (Int.not_lt.mp hbig) (by omega)

theorem fromStr_agree (prof : Profile) (s : List Nat) (hb : ∀ c ∈ s, c < 256) (hlen : s.length < 2 ^ 56) :
    agree (Spec.parseSpec s) (fromStr prof s) := by
  rw [fromStr_eq, strToDec_eq]
  cases s with
  | nil => exact ⟨_, rfl, rfl⟩
  | cons c cs =>
    rw [takeSign_cons, parseSpec_cons]
    have h := optSign_suffix (c :: cs)
    exact body_agree prof _ _ (fun x hx => hb x (h.subset hx)) (Nat.lt_of_le_of_lt h.length_le hlen)

end Fpdec.ParseAux

namespace Fpdec
open Fpdec.Model

/-- `accum_coeff` consumes exactly the leading digits and accumulates their value, saturating at `u128::MAX` -/
theorem accumCoeff_spec (c : Nat) (s : List Nat) (hb : ∀ x ∈ s, x < 256) (hc : c < U128_MOD) :
    accumCoeff c s =
      (Nat.min (c * 10 ^ (Spec.spanDigits s).1.length + Spec.digitsVal (Spec.spanDigits s).1) (U128_MOD - 1),
       (Spec.spanDigits s).2, (Spec.spanDigits s).1.length) := by
  have h := ParseAux.accumCoeff_gen c s hb
  rwa [show min c ParseAux.M128 = c from Nat.min_eq_left (Nat.le_pred_of_lt hc), pushDigits_eq] at h

/-- `Decimal::from_str` accepts exactly the grammar of `Spec.parseSpec`, returns exactly its value, never panics
    (in any profile), and reports `Empty` only for the empty string -/
theorem fromStr_spec (prof : Profile) (s : List Nat) (hb : ∀ c ∈ s, c < 256) (hlen : s.length < 2 ^ 56) :
    match Spec.parseSpec s, fromStr prof s with
    | .ok c p, .ok (.ok d) => d = ⟨c, p⟩
    | .empty, .ok (.error e) => e = ParseErr.empty
    | .bad, .ok (.error e) => e ≠ ParseErr.empty
    | _, _ => False := by
  obtain ⟨x, hx, hr⟩ := ParseAux.fromStr_agree prof s hb hlen
  rw [hx, ← hr]
  cases x with
  | ok d => rfl
  | error e => cases e <;> first | rfl | exact ParseErr.noConfusion

theorem fromStr_ok_iff (prof : Profile) (s : List Nat) (hb : ∀ c ∈ s, c < 256) (hlen : s.length < 2 ^ 56) (d : Dec) :
    fromStr prof s = .ok (.ok d) ↔ Spec.parseSpec s = .ok d.coeff d.nfrac := by
  obtain ⟨x, hx, hr⟩ := ParseAux.fromStr_agree prof s hb hlen
  rw [hx, ← hr, ParseAux.resOf_eq_ok, Outcome.ok.injEq]

theorem fromStr_err_iff (prof : Profile) (s : List Nat) (hb : ∀ c ∈ s, c < 256) (hlen : s.length < 2 ^ 56) :
    (∃ e, fromStr prof s = .ok (.error e)) ↔ (Spec.parseSpec s = .bad ∨ Spec.parseSpec s = .empty) := by
  obtain ⟨x, hx, hr⟩ := ParseAux.fromStr_agree prof s hb hlen
  simp only [hx, ← hr, ParseAux.resOf_error, Outcome.ok.injEq]

theorem fromStr_empty_iff (prof : Profile) (s : List Nat) (hb : ∀ c ∈ s, c < 256) (hlen : s.length < 2 ^ 56) :
    fromStr prof s = .ok (.error .empty) ↔ Spec.parseSpec s = .empty := by
  obtain ⟨x, hx, hr⟩ := ParseAux.fromStr_agree prof s hb hlen
  rw [hx, ← hr, ParseAux.resOf_eq_empty, Outcome.ok.injEq]

#print axioms chunkContains8Digits_iff
#print axioms chunkToU64_val
#print axioms accumCoeff_spec
#print axioms fromStr_spec

end Fpdec
