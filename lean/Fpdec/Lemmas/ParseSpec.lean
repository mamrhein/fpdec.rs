import Fpdec.Lemmas.Digits

/-!
# The reference grammar `Spec.parseSpec`, stage by stage

`parseSpec` is one expression; every statement about it goes through the stages named here
(sign, integer digits, fraction, exponent, final range decision) and the equations between them, never through its unfolding.
The sign only enters at the leaves of the last stage (`sFinal_neg`), no leaf is `.empty` (`sFinal_ne_empty`).
-/

namespace Fpdec.ParseAux
open Fpdec

theorem isDig_iff {c : Nat} : Spec.isDig c = true ↔ 48 ≤ c ∧ c ≤ 57 := by simp [Spec.isDig]

theorem spanDigits_eq (s : List Nat) : Spec.spanDigits s = (s.takeWhile Spec.isDig, s.dropWhile Spec.isDig) := by
  induction s with
  | nil => rfl
  | cons c cs ih => unfold Spec.spanDigits; cases h : Spec.isDig c <;> simp [h, ih]

theorem span_nil : Spec.spanDigits [] = ([], []) := rfl

theorem span_cons_dig (c : Nat) (cs : List Nat) (h : Spec.isDig c = true) :
    Spec.spanDigits (c :: cs) = (c :: (Spec.spanDigits cs).1, (Spec.spanDigits cs).2) := by
  simp only [spanDigits_eq, List.takeWhile_cons_of_pos h, List.dropWhile_cons_of_pos h]

theorem span_cons_nondig (c : Nat) (cs : List Nat) (h : Spec.isDig c = false) :
    Spec.spanDigits (c :: cs) = ([], c :: cs) := by
  have h' : ¬ Spec.isDig c = true := by simp [h]
  simp only [spanDigits_eq, List.takeWhile_cons_of_neg h', List.dropWhile_cons_of_neg h']

theorem span_append (s : List Nat) : (Spec.spanDigits s).1 ++ (Spec.spanDigits s).2 = s := by
  rw [spanDigits_eq]; exact List.takeWhile_append_dropWhile

theorem span_digits (s : List Nat) : ∀ c ∈ (Spec.spanDigits s).1, Spec.isDig c = true := by
  rw [spanDigits_eq]; exact List.all_eq_true.mp List.all_takeWhile

theorem span_suffix (s : List Nat) : (Spec.spanDigits s).2 <:+ s := by
  rw [spanDigits_eq]; exact List.dropWhile_suffix _

theorem span_prefix (p r : List Nat) (hp : ∀ c ∈ p, Spec.isDig c = true) :
    Spec.spanDigits (p ++ r) = (p ++ (Spec.spanDigits r).1, (Spec.spanDigits r).2) := by
  simp only [spanDigits_eq, List.takeWhile_append_of_pos hp, List.dropWhile_append_of_pos hp]

theorem span_length (s : List Nat) :
    (Spec.spanDigits s).1.length + (Spec.spanDigits s).2.length = s.length := by
  rw [← List.length_append, span_append]

theorem optSign_cons (c : Nat) (s : List Nat) :
    Spec.optSign (c :: s) = (decide (c = 45), if c = 45 ∨ c = 43 then s else c :: s) := by
  by_cases h1 : c = 45
  · subst h1; rfl
  · by_cases h2 : c = 43
    · subst h2; rfl
    · unfold Spec.optSign
      split <;> simp_all

theorem optSign_of_ne {c : Nat} (s : List Nat) (h45 : c ≠ 45) (h43 : c ≠ 43) :
    Spec.optSign (c :: s) = (false, c :: s) := by
  simp [optSign_cons, h45, h43]

theorem optSign_of_isDig {c : Nat} (s : List Nat) (h : Spec.isDig c = true) :
    Spec.optSign (c :: s) = (false, c :: s) := by
  rw [isDig_iff] at h
  exact optSign_of_ne s (by omega) (by omega)

theorem optSign_suffix (s : List Nat) : (Spec.optSign s).2 <:+ s := by
  cases s with
  | nil => exact List.suffix_refl _
  | cons c s => rw [optSign_cons]; split; exact List.suffix_cons c s; exact List.suffix_refl _

theorem optSign_length (s : List Nat) : (Spec.optSign s).2.length ≤ s.length := (optSign_suffix s).length_le

def sgn (neg : Bool) (c : Int) : Int := if neg then -c else c

theorem sgn_true (c : Int) : sgn true c = -c := rfl
theorem sgn_false (c : Int) : sgn false c = c := rfl

theorem sgn_eq_zero {neg : Bool} {c : Int} : sgn neg c = 0 ↔ c = 0 := by
  cases neg
  · exact Iff.rfl
  · exact Int.neg_eq_zero

theorem sgn_natCast_eq_zero {neg : Bool} {D : Nat} : sgn neg D = 0 ↔ D = 0 := sgn_eq_zero.trans Int.natCast_eq_zero

theorem sgn_mul (neg : Bool) (c k : Int) : sgn neg c * k = sgn neg (c * k) := by
  cases neg
  · rfl
  · exact Int.neg_mul c k

def sFrac (r1 : List Nat) : List Nat × List Nat × Bool :=
  match r1 with
  | 46 :: r => let (f, r') := Spec.spanDigits r; (f, r', true)
  | _ => ([], r1, false)

def sExp (s : List Nat) : Option (Int × List Nat) :=
  match s with
  | c :: r =>
    if c = 101 ∨ c = 69 then
      let sg := Spec.optSign r
      let sp := Spec.spanDigits sg.2
      if sp.1.isEmpty then none else some (sgn sg.1 (Spec.digitsVal sp.1), sp.2)
    else some (0, c :: r)
  | [] => some (0, [])

def sFinal (neg : Bool) (D : Nat) (f e : Int) : Spec.ParseRes :=
  if e ≥ f then
    if D = 0 then .ok 0 0
    else if e - f > 38 then .bad
    else if ((D * 10 ^ (e - f).toNat : Nat) : Int) ≤ (2 : Int) ^ 127 - 1 then .ok (sgn neg (D * 10 ^ (e - f).toNat : Nat)) 0 else .bad
  else
    if f - e > 18 then .bad
    else if (D : Int) ≤ (2 : Int) ^ 127 - 1 then .ok (sgn neg D) (f - e).toNat else .bad

def sRest (neg : Bool) (D : Nat) (f : Int) : Option (Int × List Nat) → Spec.ParseRes
  | none => .bad
  | some (e, rest) => if !rest.isEmpty then .bad else sFinal neg D f e

/-- from the exponent on, given the integer digits `ip`, the fraction digits `fp` and the rest `s` -/
def sTail (neg : Bool) (ip fp s : List Nat) : Spec.ParseRes :=
  if ip.isEmpty ∧ fp.isEmpty then .bad else sRest neg (Spec.digitsVal (ip ++ fp)) fp.length (sExp s)

/-- everything after the sign -/
def sBody (neg : Bool) (t : List Nat) : Spec.ParseRes :=
  sTail neg (Spec.spanDigits t).1 (sFrac (Spec.spanDigits t).2).1 (sFrac (Spec.spanDigits t).2).2.1

theorem sFrac_point (r : List Nat) : sFrac (46 :: r) = ((Spec.spanDigits r).1, (Spec.spanDigits r).2, true) := rfl

theorem sFrac_nopoint {c : Nat} (r : List Nat) (h : c ≠ 46) : sFrac (c :: r) = ([], c :: r, false) := by
  unfold sFrac; split <;> simp_all

theorem sFrac_suffix (r : List Nat) : (sFrac r).1 ++ (sFrac r).2.1 <:+ r := by
  unfold sFrac
  split
  · rw [span_append]; exact List.suffix_cons ..
  · exact List.suffix_refl _

theorem parseSpec_nil : Spec.parseSpec [] = .empty := rfl

theorem parseSpec_cons (c : Nat) (s : List Nat) :
    Spec.parseSpec (c :: s) = sBody (Spec.optSign (c :: s)).1 (Spec.optSign (c :: s)).2 := rfl

theorem sFinal_noexp (neg : Bool) (D f : Nat) (hf : f ≤ 18) (hD : (D : Int) ≤ 2 ^ 127 - 1) :
    sFinal neg D f 0 = .ok (sgn neg D) f := by
  unfold sFinal
  cases f with
  | zero =>
    rw [show ((0 : Nat) : Int) = 0 from rfl, if_pos (show (0 : Int) ≥ 0 from Int.le_refl 0), Int.sub_self,
      if_neg (show ¬ (0 : Int) > 38 by decide), Int.toNat_zero, Nat.pow_zero, Nat.mul_one, if_pos hD]
    split
    · subst_vars; exact congrArg (Spec.ParseRes.ok · 0) (sgn_eq_zero (c := ((0 : Nat) : Int)).mpr rfl).symm
    · rfl
  | succ f =>
    rw [if_neg (by omega), if_neg (by omega), if_pos hD, Int.sub_zero, Int.toNat_natCast]

theorem sTail_zero_cons (neg : Bool) (c : Nat) (ip fp s : List Nat) :
    sTail neg (48 :: c :: ip) fp s = sTail neg (c :: ip) fp s := by
  rw [sTail, sTail, List.cons_append, digitsVal_zero_cons]
  rfl

def negRes : Spec.ParseRes → Spec.ParseRes
  | .ok c p => .ok (-c) p
  | r => r

theorem negRes_ok (c : Int) (p : Nat) : negRes (.ok c p) = .ok (-c) p := rfl
theorem negRes_bad : negRes .bad = .bad := rfl

theorem sFinal_neg (D : Nat) (f e : Int) : sFinal true D f e = negRes (sFinal false D f e) := by
  simp only [sFinal, apply_ite negRes, negRes_ok, negRes_bad, Int.neg_zero]
  rfl

theorem sRest_neg (D : Nat) (f : Int) (x : Option (Int × List Nat)) : sRest true D f x = negRes (sRest false D f x) := by
  cases x with
  | none => rfl
  | some p => simp only [sRest, sFinal_neg, apply_ite negRes, negRes_bad]

theorem sTail_neg (ip fp s : List Nat) : sTail true ip fp s = negRes (sTail false ip fp s) := by
  simp only [sTail, sRest_neg, apply_ite negRes, negRes_bad]

theorem sBody_neg (t : List Nat) : sBody true t = negRes (sBody false t) := sTail_neg ..

theorem sFinal_ne_empty (neg : Bool) (D : Nat) (f e : Int) : sFinal neg D f e ≠ .empty := by
  simp only [sFinal, ne_eq, apply_ite (· = Spec.ParseRes.empty), reduceCtorEq, ite_self, not_false_eq_true]

theorem sTail_ne_empty (neg : Bool) (ip fp s : List Nat) : sTail neg ip fp s ≠ .empty := by
  rw [sTail]
  cases sExp s <;>
    simp only [sRest, ne_eq, apply_ite (· = Spec.ParseRes.empty), reduceCtorEq, ite_self, not_false_eq_true, sFinal_ne_empty]

theorem parseSpec_eq_empty {s : List Nat} : Spec.parseSpec s = .empty ↔ s = [] := by
  cases s with
  | nil => exact ⟨fun _ => rfl, fun _ => rfl⟩
  | cons c s => exact ⟨fun h => absurd h (sTail_ne_empty _ _ _ _), fun h => nomatch h⟩

theorem parseSpec_minus (t : List Nat) : Spec.parseSpec (45 :: t) = negRes (sBody false t) := sBody_neg t

theorem parseSpec_nosign {c : Nat} (s : List Nat) (h45 : c ≠ 45) (h43 : c ≠ 43) :
    Spec.parseSpec (c :: s) = sBody false (c :: s) := by
  rw [parseSpec_cons, optSign_of_ne s h45 h43]

end Fpdec.ParseAux
