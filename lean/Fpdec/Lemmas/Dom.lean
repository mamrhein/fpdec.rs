import Fpdec.Lemmas.Basic
import Fpdec.Spec.Allowed

/-! # The input domain of the properties, and model outcomes against the expectations of the spec (`Spec.Exp`) -/

namespace Fpdec
open Fpdec.Model

/-- `Decimal::MIN ..= Decimal::MAX` with 0..=18 fractional digits, any representation -/
def Dom (d : Dec) : Prop := I128_MIN < d.coeff ∧ d.coeff ≤ I128_MAX ∧ d.nfrac ≤ 18

instance (d : Dec) : Decidable (Dom d) := by unfold Dom; infer_instance

def Dec.pair (d : Dec) : Int × Nat := (d.coeff, d.nfrac)

/-- view of a model outcome as the spec sees it -/
def outPair (r : Outcome Dec) : Outcome (Int × Nat) := Dec.pair <$> r
def outOptPair (r : Outcome (Option Dec)) : Outcome (Option (Int × Nat)) := (Option.map Dec.pair) <$> r

@[simp] theorem outPair_ok (d : Dec) : outPair (.ok d) = .ok (d.coeff, d.nfrac) := rfl
@[simp] theorem outPair_panic (k : PanicKind) : outPair (.panic k) = .panic k := rfl
@[simp] theorem outOptPair_some (d : Dec) : outOptPair (.ok (some d)) = .ok (some (d.coeff, d.nfrac)) := rfl
@[simp] theorem outOptPair_none : outOptPair (.ok none) = .ok none := rfl
@[simp] theorem outOptPair_panic (k : PanicKind) : outOptPair (.panic k) = .panic k := rfl

theorem Dom.fits {d : Dec} (h : Dom d) : fitsI128 d.coeff = true := by
  unfold Dom at h; rw [fitsI128_iff]; omega

/-- the scales of the domain are inside the table of powers of ten -/
theorem Dom.nfrac_le_38 {d : Dec} (h : Dom d) : d.nfrac ≤ 38 := Nat.le_trans h.2.2 (by decide)

/-- `Dom` plus the coefficient `i128::MIN`: what `Decimal::from(i128)` can produce -/
def DomI (d : Dec) : Prop := I128_MIN ≤ d.coeff ∧ d.coeff ≤ I128_MAX ∧ d.nfrac ≤ 18

theorem Dom.domI {d : Dec} (h : Dom d) : DomI d := ⟨Int.le_of_lt h.1, h.2.1, h.2.2⟩

theorem dom_of_fits {k : Int} (hf : fitsI128 k = true) (hm : k ≠ I128_MIN) {n : Nat} (hn : n ≤ 18) : Dom ⟨k, n⟩ :=
  have h := (fitsI128_iff k).mp hf
  ⟨Int.lt_iff_le_and_ne.mpr ⟨h.1, Ne.symm hm⟩, h.2, hn⟩

theorem domI_fromInt {i : Int} (hi : I128_MIN ≤ i ∧ i ≤ I128_MAX) : DomI ⟨i, 0⟩ := ⟨hi.1, hi.2, Nat.zero_le _⟩

/-- the domain is symmetric and convex: a coefficient of no larger absolute value stays inside -/
theorem Dom.mono {d : Dec} (hd : Dom d) {c : Int} (hc : c.natAbs ≤ d.coeff.natAbs) {n : Nat} (hn : n ≤ 18) : Dom ⟨c, n⟩ := by
  unfold Dom I128_MIN I128_MAX at *
  dsimp only
  omega

theorem Dom.neg {d : Dec} (hd : Dom d) : Dom ⟨-d.coeff, d.nfrac⟩ := hd.mono (by omega) hd.2.2

theorem Dom.abs {d : Dec} (hd : Dom d) : Dom ⟨d.coeff.natAbs, d.nfrac⟩ := hd.mono (by omega) hd.2.2

theorem natAbs_le_max {a : Int} (h : I128_MIN < a ∧ a ≤ I128_MAX) : (a.natAbs : Int) ≤ I128_MAX := by
  unfold I128_MIN I128_MAX at *; omega

theorem natAbs_lt_U128 {x : Int} (h : I128_MIN ≤ x ∧ x ≤ I128_MAX) : x.natAbs < U128_MOD := by
  unfold I128_MIN I128_MAX at h
  unfold U128_MOD
  omega

/-- `coeff.abs()` of a coefficient of the domain -/
theorem abs_ok (prof : Profile) {a : Int} (h : I128_MIN < a ∧ a ≤ I128_MAX) :
    plainI128 prof (if a < 0 then -a else a) = .ok (a.natAbs : Int) := by
  have e : (if a < 0 then -a else a) = (a.natAbs : Int) := by split <;> omega
  rw [e]
  exact plainI128_ok prof (fits_natCast (natAbs_le_max h))

theorem valFit_eq (c : Int) (p : Nat) :
    Spec.valFit c p = if c = I128_MIN then Spec.Exp.valOrOvf c p
      else if fitsI128 c = true then Spec.Exp.val c p else Spec.Exp.ovf := by
  unfold Spec.valFit I128_MIN
  rw [pow2_127, spec_fits_eq]

theorem valFit_of_fits {c : Int} (p : Nat) (hm : c ≠ I128_MIN) (hf : fitsI128 c = true) : Spec.valFit c p = .val c p := by
  rw [valFit_eq, if_neg hm, if_pos hf]

theorem valFit_of_unfit {c : Int} (p : Nat) (hf : fitsI128 c = false) : Spec.valFit c p = .ovf := by
  rw [valFit_eq, if_neg (fun h => by rw [h] at hf; exact absurd hf (by decide)), if_neg (by rw [hf]; exact Bool.false_ne_true)]

theorem valFit_some (c : Int) (p : Nat) (h : fitsI128 c = true) :
    Spec.allowedChecked (Spec.valFit c p) (.ok (some (c, p))) = true := by
  rw [valFit_eq, if_pos h]
  split <;> exact beq_self_eq_true _

theorem valFit_none (c : Int) (p : Nat) (h : fitsI128 c = false) :
    Spec.allowedChecked (Spec.valFit c p) (.ok none) = true := by
  rw [valFit_of_unfit p h]; rfl

theorem valFit_checked (c : Int) (p : Nat) :
    Spec.allowedChecked (Spec.valFit c p) (outOptPair (.ok ((checkedI128 c).map fun c => ⟨c, p⟩))) = true := by
  cases hh : fitsI128 c
  · rw [checkedI128_none hh]; exact valFit_none _ _ hh
  · rw [checkedI128_some hh]; exact valFit_some _ _ hh

theorem of_valFit_ok {c c' : Int} {q q' : Nat} (h : Spec.allowedOp (Spec.valFit c q) (.ok (c', q')) = true) :
    c' = c ∧ q' = q ∧ fitsI128 c = true := by
  cases hf : fitsI128 c
  · rw [valFit_of_unfit q hf] at h
    exact (Bool.false_ne_true h).elim
  · rw [valFit_eq, if_pos hf] at h
    split at h <;> exact ⟨(Prod.mk.inj (eq_of_beq h)).1, (Prod.mk.inj (eq_of_beq h)).2, rfl⟩

/-! An operator is `panicOnNone` of its checked variant (`.ok o` where the model's checked variant is `Option`-valued and cannot
panic); behind a zero-divisor test the pair is `opOfChecked z r` / `checkedOfChecked z r` (further down). -/

/-- the operator idiom `if let Some(r) = checked(..) { r } else { panic!("{}", InternalOverflow) }` -/
def panicOnNone : Outcome (Option Dec) → Outcome Dec
  | .ok (some d) => .ok d
  | .ok none => .panic .overflow
  | .panic k => .panic k

theorem panicOnNone_some (d : Dec) : panicOnNone (.ok (some d)) = .ok d := rfl
theorem panicOnNone_none : panicOnNone (.ok none) = .panic .overflow := rfl
theorem panicOnNone_panic (k : PanicKind) : panicOnNone (.panic k) = .panic k := rfl

theorem panicOnNone_ite (c : Prop) [Decidable c] (a b : Outcome (Option Dec)) :
    panicOnNone (if c then a else b) = if c then panicOnNone a else panicOnNone b :=
  apply_ite panicOnNone c a b

theorem panicOnNone_bind {α} (o : Outcome α) (f : α → Outcome (Option Dec)) :
    panicOnNone (o >>= f) = o >>= fun a => panicOnNone (f a) := by
  cases o <;> rfl

theorem bind_panicOnNone (r : Outcome (Option Dec)) :
    (r >>= fun o => match o with
      | some d => (pure d : Outcome Dec)
      | none => Outcome.panic PanicKind.overflow) = panicOnNone r := by
  cases r with
  | panic k => rfl
  | ok o => cases o <;> rfl

theorem panicOnNone_ok (o : Option Dec) : panicOnNone (.ok o) = Outcome.ofOption .overflow o := by
  cases o <;> rfl

theorem ofOption_bind {α β} (k : PanicKind) (o : Option α) (f : α → Option β) :
    Outcome.ofOption k (o >>= f) = Outcome.ofOption k o >>= fun a => Outcome.ofOption k (f a) := by
  cases o <;> rfl

theorem ofOption_pure {α} (k : PanicKind) (a : α) : Outcome.ofOption k (pure a) = .ok a := rfl

theorem panicOnNone_eq_ok_iff (r : Outcome (Option Dec)) (d : Dec) : panicOnNone r = .ok d ↔ r = .ok (some d) := by
  rcases r with (_ | _) | _ <;> simp [panicOnNone]

/-- over a checked variant that does not panic, the operator panics exactly on `None`, with the overflow panic -/
theorem panicOnNone_eq_panic_iff {r : Outcome (Option Dec)} {k : PanicKind} (h : ∃ o, r = .ok o) :
    panicOnNone r = .panic k ↔ r = .ok none ∧ k = .overflow := by
  obtain ⟨o, rfl⟩ := h
  cases o <;> simp [panicOnNone, eq_comm]

/-- an expectation of the kind "this value, or the overflow signal": what the arithmetic cores produce behind the guards
    (`divzero`, `nfrac`, `none`, `any` come from the guards) -/
def Spec.Exp.ValOvf : Spec.Exp → Prop
  | .val _ _ | .ovf | .valOrOvf _ _ => True
  | _ => False

theorem Spec.Exp.ValOvf.ite {c : Prop} [Decidable c] {e1 e2 : Spec.Exp} (h1 : e1.ValOvf) (h2 : e2.ValOvf) :
    (if c then e1 else e2).ValOvf := by
  split <;> assumption

theorem Spec.Exp.ValOvf.ne_nfrac {e : Spec.Exp} (h : e.ValOvf) : e ≠ .nfrac := fun he => by rw [he] at h; exact h

theorem valFit_valOvf (c : Int) (p : Nat) : (Spec.valFit c p).ValOvf := .ite trivial (.ite trivial trivial)

theorem valFitSharp_valOvf (c : Int) (p : Nat) : (Spec.valFitSharp c p).ValOvf := .ite trivial trivial

theorem allowedOp_panicOnNone {e : Spec.Exp} {r : Outcome (Option Dec)} (hv : e.ValOvf)
    (h : Spec.allowedChecked e (outOptPair r) = true) : Spec.allowedOp e (outPair (panicOnNone r)) = true := by
  cases e <;> first | exact hv.elim | skip
  all_goals rcases r with (_ | d) | k <;> first | exact h | rfl | exact (Bool.false_ne_true h).elim

theorem valFit_some_op (c : Int) (p : Nat) (h : fitsI128 c = true) :
    Spec.allowedOp (Spec.valFit c p) (.ok (c, p)) = true :=
  allowedOp_panicOnNone (r := .ok (some ⟨c, p⟩)) (valFit_valOvf c p) (valFit_some c p h)

theorem valFit_ovf_op (c : Int) (p : Nat) (h : fitsI128 c = false) :
    Spec.allowedOp (Spec.valFit c p) (.panic .overflow) = true :=
  allowedOp_panicOnNone (r := .ok none) (valFit_valOvf c p) (valFit_none c p h)

theorem ok_of_allowedChecked {e : Spec.Exp} {r : Outcome (Option Dec)} (hv : e.ValOvf)
    (h : Spec.allowedChecked e (outOptPair r) = true) : ∃ o, r = .ok o := by
  cases r with
  | ok o => exact ⟨o, rfl⟩
  | panic k => cases e <;> first | exact hv.elim | exact (Bool.false_ne_true h).elim

theorem allowedOp_ite {c : Prop} [Decidable c] {e e' : Spec.Exp} {o o' : Outcome Dec}
    (h : c → Spec.allowedOp e (outPair o) = true) (h' : ¬ c → Spec.allowedOp e' (outPair o') = true) :
    Spec.allowedOp (if c then e else e') (outPair (if c then o else o')) = true := by
  by_cases hc : c
  · rw [if_pos hc, if_pos hc]; exact h hc
  · rw [if_neg hc, if_neg hc]; exact h' hc

theorem allowedChecked_ite {c : Prop} [Decidable c] {e e' : Spec.Exp} {r r' : Outcome (Option Dec)}
    (h : c → Spec.allowedChecked e (outOptPair r) = true) (h' : ¬ c → Spec.allowedChecked e' (outOptPair r') = true) :
    Spec.allowedChecked (if c then e else e') (outOptPair (if c then r else r')) = true := by
  by_cases hc : c
  · rw [if_pos hc, if_pos hc]; exact h hc
  · rw [if_neg hc, if_neg hc]; exact h' hc

theorem allowedOp_val_self (d : Dec) : Spec.allowedOp (.val d.coeff d.nfrac) (outPair (.ok d)) = true :=
  beq_self_eq_true _

theorem allowedChecked_val_self (d : Dec) :
    Spec.allowedChecked (.val d.coeff d.nfrac) (outOptPair (.ok (some d))) = true :=
  beq_self_eq_true _

theorem ok_of_allowed_val {o : Outcome Dec} {c : Int} {q : Nat} (h : Spec.allowedOp (.val c q) (outPair o) = true) :
    o = .ok ⟨c, q⟩ := by
  rcases o with ⟨c', q'⟩ | k
  · cases eq_of_beq h
    rfl
  · exact (Bool.false_ne_true h).elim

theorem ok_of_allowed_ite {c : Prop} [Decidable c] {s : Int} {m : Nat} {r : Dec}
    (h : Spec.allowedOp (if c then .val s m else .ovf) (outPair (.ok r)) = true) : c ∧ r = ⟨s, m⟩ := by
  split at h
  · next hc => exact ⟨hc, Outcome.ok.inj (ok_of_allowed_val h)⟩
  · exact (Bool.false_ne_true h).elim

theorem valFitSharp_checked (s : Int) (m : Nat) :
    Spec.allowedChecked (Spec.valFitSharp s m) (outOptPair (.ok (checkedI128 s >>= fun c => pure ⟨c, m⟩))) = true := by
  unfold Spec.valFitSharp
  rw [spec_fits_eq]
  cases h : fitsI128 s
  · rw [checkedI128_none h]; rfl
  · rw [checkedI128_some h]; exact allowedChecked_val_self ⟨s, m⟩

/-! The operator form `opOfChecked z r` and the checked form `checkedOfChecked z r` of one shared body `r` behind the zero-divisor
test `z`: `/`, `%` with integer operands and `%` on Decimals are modelled this way. -/

theorem opOfChecked_eq (z : Bool) (r : Outcome (Option Dec)) :
    opOfChecked z r = if z = true then .panic .divzero else panicOnNone r := by
  unfold opOfChecked
  split
  · rfl
  · rcases r with (_ | _) | _ <;> rfl

theorem checkedOfChecked_eq (z : Bool) (r : Outcome (Option Dec)) :
    checkedOfChecked z r = if z = true then .ok none else r := rfl

/-- a body that repeats the zero-divisor test -/
theorem opOfChecked_ite_self (z : Bool) (r : Outcome (Option Dec)) :
    opOfChecked z (if z = true then .ok none else r) = opOfChecked z r := by
  cases z <;> rfl

theorem checkedOfChecked_ite_self (z : Bool) (r : Outcome (Option Dec)) :
    checkedOfChecked z (if z = true then .ok none else r) = checkedOfChecked z r := by
  cases z <;> rfl

theorem allowedOp_opOfChecked {e : Spec.Exp} {z : Bool} {r : Outcome (Option Dec)} (hz : z = true → e = .divzero)
    (h : z = false → e.ValOvf ∧ Spec.allowedChecked e (outOptPair r) = true) :
    Spec.allowedOp e (outPair (opOfChecked z r)) = true := by
  rw [opOfChecked_eq]
  cases z
  · exact allowedOp_panicOnNone (h rfl).1 (h rfl).2
  · rw [hz rfl]; rfl

theorem allowedChecked_checkedOfChecked {e : Spec.Exp} {z : Bool} {r : Outcome (Option Dec)} (hz : z = true → e = .divzero)
    (h : z = false → Spec.allowedChecked e (outOptPair r) = true) :
    Spec.allowedChecked e (outOptPair (checkedOfChecked z r)) = true := by
  cases z
  · exact h rfl
  · rw [hz rfl]; rfl

theorem opOfChecked_eq_panic_iff (z : Bool) (r : Outcome (Option Dec)) (k : PanicKind) :
    opOfChecked z r = .panic k ↔
      ((z = true ∧ k = .divzero) ∨ (z = false ∧ r = .ok none ∧ k = .overflow) ∨ (z = false ∧ r = .panic k)) := by
  cases z
  · cases r with
    | panic k' => simp [opOfChecked]
    | ok o => cases o <;> simp [opOfChecked, eq_comm]
  · simp [opOfChecked, eq_comm]

theorem checkedOfChecked_eq_panic_iff (z : Bool) (r : Outcome (Option Dec)) (k : PanicKind) :
    checkedOfChecked z r = .panic k ↔ (z = false ∧ r = .panic k) := by
  cases z <;> simp [checkedOfChecked]

theorem checked_some_iff_op_ok (z : Bool) (r : Outcome (Option Dec)) (d : Dec) :
    checkedOfChecked z r = .ok (some d) ↔ opOfChecked z r = .ok d := by
  rw [checkedOfChecked_eq, opOfChecked_eq]
  cases z
  · exact (panicOnNone_eq_ok_iff r d).symm
  · exact ⟨nofun, nofun⟩

theorem op_overflow_iff (z : Bool) (r : Outcome (Option Dec)) :
    opOfChecked z r = .panic .overflow ↔ (z = false ∧ (r = .ok none ∨ r = .panic .overflow)) := by
  cases z
  · cases r with
    | panic k => simp [opOfChecked]
    | ok o => cases o <;> simp [opOfChecked]
  · simp [opOfChecked]

theorem checked_form_no_panic (z : Bool) (r : Outcome (Option Dec)) (h : z = false → ∃ o, r = .ok o) :
    ∃ o, checkedOfChecked z r = .ok o := by
  cases z
  · exact h rfl
  · exact ⟨none, rfl⟩

theorem checked_none_iff_op_panic (z : Bool) (r : Outcome (Option Dec)) (h : z = false → ∃ o, r = .ok o) :
    checkedOfChecked z r = .ok none ↔ (opOfChecked z r = .panic .divzero ∨ opOfChecked z r = .panic .overflow) := by
  rw [checkedOfChecked_eq, opOfChecked_eq]
  cases z
  · simp [panicOnNone_eq_panic_iff (h rfl)]
  · simp

theorem op_divzero_iff (z : Bool) (r : Outcome (Option Dec)) (h : z = false → ∃ o, r = .ok o) :
    opOfChecked z r = .panic .divzero ↔ z = true := by
  rw [opOfChecked_eq]
  cases z
  · simp [panicOnNone_eq_panic_iff (h rfl)]
  · simp

theorem op_panic_kind (z : Bool) (r : Outcome (Option Dec)) (k : PanicKind) (h : z = false → ∃ o, r = .ok o)
    (hk : opOfChecked z r = .panic k) : k = .divzero ∨ k = .overflow := by
  rw [opOfChecked_eq] at hk
  cases z
  · exact .inr ((panicOnNone_eq_panic_iff (h rfl)).mp hk).2
  · exact .inl (Outcome.panic.inj hk).symm

end Fpdec
