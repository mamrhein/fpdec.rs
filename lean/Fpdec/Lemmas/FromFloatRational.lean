import Fpdec.Lemmas.FromFloatApprox

/-!
# `approx_rational(n, d)` is the half-even rounding of `n/d` to 18 digits, normalized
-/

namespace Fpdec
open Fpdec.Model

/-- `approx_rational` needs `magn_coeff + 18 < 38`: a coefficient below `2^53 < 10^16` has magnitude at most 15 -/
theorem i128Magnitude_le (c : Int) (h0 : 0 ≤ c) (h : c < 9007199254740992) : i128Magnitude c ≤ 15 := by
  unfold i128Magnitude
  by_cases hc : c = 0
  · subst hc; decide
  · have := IsLog10.lt_of_lt (log10U128_isLog c.natAbs (by omega) (by omega)) (n := 16) (by omega)
    omega

theorem i128Magnitude_lt (c : Int) : i128Magnitude c < 256 := by
  unfold i128Magnitude; exact Nat.mod_lt _ (by decide)

/-- restoring the sign after rounding the magnitude is rounding the signed value -/
theorem heven_mul_sign (X d s : Int) (hd : 0 < d) (hs : s = 1 ∨ s = -1) :
    Spec.specRound .heven (X * s) d = Spec.specRound .heven X d * s := by
  rcases hs with rfl | rfl
  · rw [Int.mul_one, Int.mul_one]
  · rw [Int.mul_neg_one, Int.mul_neg_one, heven_neg _ _ hd]

/-- early termination (`rem = 0` after `j < 18` digits) gives the same normalized decimal -/
theorem normalize_early (N d : Int) (j : Nat) (hd : 0 < d) (hN : N ≠ 0) (hj : j ≤ 18)
    (hstop : j = 18 ∨ N % d = 0) :
    normalize (Spec.specRound .heven N d) j
      = Spec.normalizeSpec 19 (Spec.specRound .heven (N * 10 ^ (18 - j)) d) 18 := by
  by_cases h18 : j = 18
  · subst h18
    simp only [Nat.sub_self, Int.pow_zero, Int.mul_one]
    exact normalize_eq_normalizeSpec _ 18 19 (by omega)
  · have hmod : N % d = 0 := by rcases hstop with h | h; exact absurd h h18; exact h
    have hdiv := Int.mul_ediv_add_emod N d
    rw [hmod, Int.add_zero] at hdiv
    have hQ : N / d ≠ 0 := by
      intro h; rw [h, Int.mul_zero] at hdiv; exact hN hdiv.symm
    have hmod2 : N * 10 ^ (18 - j) % d = 0 := by
      rw [← hdiv, Int.mul_assoc]; exact Int.mul_emod_right _ _
    have hdiv2 : N * 10 ^ (18 - j) / d = N / d * 10 ^ (18 - j) := by
      conv => lhs; rw [← hdiv, Int.mul_assoc]
      exact Int.mul_ediv_cancel_left _ (Int.ne_of_gt hd)
    rw [specRound_exact _ _ _ hmod, specRound_exact _ _ _ hmod2, hdiv2]
    rw [normalize_eq_normalizeSpec (N / d) j (j + 1) (by omega)]
    have := normalizeSpec_strip (N / d) hQ (18 - j) (j + 1) j
    have e1 : j + 1 + (18 - j) = 19 := by omega
    have e2 : j + (18 - j) = 18 := by omega
    rw [e1, e2] at this
    exact this.symm

/-- `|n| < 2^53`: a float's significand; `d ≤ 2^126`: `try_from` sends only exponents `≥ -126` here. -/
theorem approxRational_spec (prof : Profile) (n d : Int) (hd : 2 ≤ d)
    (hd2 : d ≤ 85070591730234615865843651857942052864)
    (hn0 : n ≠ 0) (hn1 : -9007199254740992 < n) (hn2 : n < 9007199254740992) :
    approxRational prof n d = .ok (Spec.normalizeSpec 19 (Spec.specRound .heven (n * 10 ^ 18) d) 18) := by
  have hd0 : 0 < d := by omega
  obtain ⟨a, haDef, ha, ha2, hna⟩ : ∃ a : Int, a = (if n < 0 then -n else n) ∧ 0 < a ∧ a < 9007199254740992 ∧
      (n = a ∨ n = -a) := by
    refine ⟨_, rfl, ?_, ?_, ?_⟩ <;> split <;> omega
  obtain ⟨hq0, hq1⟩ := (ediv_bounds a hd0).1 (Int.le_of_lt ha)
  have hmag := i128Magnitude_le (a / d) hq0 (by omega)
  obtain ⟨j, hj, hstop, hloop⟩ := approxLoop_spec prof d a hd ha ha2 18 0 (i128Magnitude (a / d)) (by omega) (by omega)
  simp only [Int.pow_zero, Int.mul_one] at hloop
  have fa : fitsI128 a = true := by rw [fitsI128_iff]; unfold I128_MIN I128_MAX; omega
  have hne : d ≠ 0 := by omega
  have hne1 : d ≠ 1 := by omega
  have hdpos : decide (d > 0) = true := by simp; omega
  unfold approxRational
  simp only [assert, hdpos, if_true, Outcome.bind_ok, hne1, if_false, hn0, ← haDef, plainI128_ok prof fa,
    divI128_pos _ _ hd0, remI128_pos _ _ hd0, Int.tdiv_eq_ediv_of_nonneg (Int.le_of_lt ha),
    Int.tmod_eq_emod_of_nonneg (Int.le_of_lt ha), max_nfrac, hloop]
  -- the final half-even step, on the magnitude `X = |n|·10^j`; the sign is restored after it
  obtain ⟨hX0, hX1⟩ := scaled_le a ha hj
  rw [pow10_18] at hX1
  obtain ⟨hsgn, hns⟩ : (Int.sign n = 1 ∨ Int.sign n = -1) ∧ n = a * Int.sign n := by
    rcases hna with h | h
    · rw [h, Int.sign_eq_one_of_pos ha]; exact ⟨Or.inl rfl, (Int.mul_one a).symm⟩
    · rw [h, Int.sign_eq_neg_one_of_neg (by omega)]; exact ⟨Or.inr rfl, (Int.mul_neg_one a).symm⟩
  have hNdef : n * 10 ^ j = a * 10 ^ j * Int.sign n := by
    conv => lhs; rw [hns]
    ring
  have hstop' : j = 18 ∨ n * 10 ^ j % d = 0 :=
    hstop.imp id fun h => by rw [hNdef]; exact Int.emod_eq_zero_of_dvd (Dvd.dvd.mul_right (Int.dvd_of_emod_eq_zero h) _)
  have hnorm := normalize_early (n * 10 ^ j) d j hd0 (Int.mul_ne_zero hn0 (Int.ne_of_gt (pow10_pos j))) hj hstop'
  rw [Int.mul_assoc, ← Int.pow_add, show j + (18 - j) = 18 by omega] at hnorm
  rw [← hnorm, hNdef, heven_mul_sign _ _ _ hd0 hsgn, heven_eq _ _ hd0]
  generalize a * 10 ^ j = X at *
  have hr0 := Int.emod_nonneg X hne
  have hr1 := Int.emod_lt_of_pos X hd0
  have hr2 := emod_le_of_nonneg X d (Int.le_of_lt hX0) hd0
  obtain ⟨hQ0, hQ1⟩ := (ediv_bounds X hd0).1 (Int.le_of_lt hX0)
  have hcast : IntTy.i128.cast (X % d * 2) = 2 * (X % d) := by
    rw [i128_cast_id (by unfold I128_MIN; omega) (by unfold I128_MAX; omega)]; omega
  rw [hcast]
  have f1 : fitsI128 (X / d + 1) = true := by rw [fitsI128_iff]; unfold I128_MIN I128_MAX; omega
  by_cases hc : 2 * (X % d) > d ∨ (2 * (X % d) = d ∧ X / d % 2 = 1)
  · have f2 : fitsI128 ((X / d + 1) * Int.sign n) = true := by
      rw [fitsI128_iff]; unfold I128_MIN I128_MAX; rcases hsgn with h | h <;> rw [h] <;> omega
    simp only [hc, if_true, plainI128_ok prof f1, Outcome.bind_ok, plainI128_ok prof f2, Outcome.pure_eq]
  · have f2 : fitsI128 (X / d * Int.sign n) = true := by
      rw [fitsI128_iff]; unfold I128_MIN I128_MAX; rcases hsgn with h | h <;> rw [h] <;> omega
    simp only [hc, if_false, Outcome.bind_ok, plainI128_ok prof f2, Outcome.pure_eq]

end Fpdec
