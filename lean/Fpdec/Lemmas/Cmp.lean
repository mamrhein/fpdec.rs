import Fpdec.Lemmas.Dom
import Mathlib.Tactic.Ring
import Mathlib.Tactic.Linarith

/-!
# C08 — Equality and ordering are by numeric value and form a total order

Model (Fpdec/Model/Decimal.lean, mirror of /repo/src/binops/cmp.rs): `checkedAdjustCoeffs` (Model/Core.lean), `partialCmp`, `decimalEq`,
`cmp`, `decEqInt`, `partialCmpDecInt`, `partialCmpIntDec`.  Spec: `Spec.cmp a p b q = compare (a·10^q) (b·10^p)` (Spec/Arith.lean) —
the comparison of the exact rational values `a/10^p` and `b/10^q`.  `DomI d` (Lemmas/Dom.lean): `I128_MIN ≤ coeff ≤ I128_MAX`,
`nfrac ≤ 18`; `Dom d` excludes `I128_MIN`.

Only `partialCmp` is analysed.  `Decimal.partial_cmp(int)` is `partialCmp` on `Decimal::from(i)` (`partialCmpDecInt_signed`,
`partialCmpDecInt_unsigned`), and the others are functions of these two whatever the operands (`decimalEq_eq_partialCmp`,
`decEqInt_eq_partialCmp`, `partialCmpIntDec_eq_swap`).  The one real point: when aligning the scales
overflows (`checkedI128 (c·10^k) = none`) the code decides by the sign of `c` — right because the other side is an i128
(`checkedI128_scaled`).
-/

namespace Fpdec
open Fpdec.Model

theorem intCompare_eq_lt_iff (a b : Int) : compare a b = .lt ↔ a < b := Int.compare_eq_lt

theorem compare_beq_eq (a b : Int) : (compare a b == .eq) = decide (a = b) := by
  rw [Bool.eq_iff_iff, beq_iff_eq, decide_eq_true_iff]
  exact Int.compare_eq_eq

theorem intCompare_mul_right (a b P : Int) (hP : 0 < P) : compare (a * P) (b * P) = compare a b := by
  rcases Int.lt_trichotomy a b with h | h | h
  · rw [Int.compare_eq_lt.mpr h, Int.compare_eq_lt.mpr (Int.mul_lt_mul_of_pos_right h hP)]
  · rw [h, Int.compare_eq_eq.mpr rfl, Int.compare_eq_eq.mpr rfl]
  · rw [Int.compare_eq_gt.mpr h, Int.compare_eq_gt.mpr (Int.mul_lt_mul_of_pos_right h hP)]

theorem spec_cmp_left (a : Int) (p : Nat) (b : Int) (q : Nat) (h : p ≤ q) :
    Spec.cmp a p b q = compare (a * (10 : Int) ^ (q - p)) b := by
  unfold Spec.cmp
  rw [pow10_split h, ← Int.mul_assoc]
  exact intCompare_mul_right _ _ _ (pow10_pos p)

theorem spec_cmp_right (a : Int) (p : Nat) (b : Int) (q : Nat) (h : q ≤ p) :
    Spec.cmp a p b q = compare a (b * (10 : Int) ^ (p - q)) := by
  unfold Spec.cmp
  rw [pow10_split h, ← Int.mul_assoc]
  exact intCompare_mul_right _ _ _ (pow10_pos q)

theorem spec_cmp_refl (a : Int) (p : Nat) : Spec.cmp a p a p = .eq := Int.compare_eq_eq.mpr rfl

theorem spec_cmp_swap (a : Int) (p : Nat) (b : Int) (q : Nat) : Spec.cmp b q a p = (Spec.cmp a p b q).swap :=
  (Int.compare_swap _ _).symm

theorem spec_cmp_beq_comm (a : Int) (p : Nat) (b : Int) (q : Nat) : (Spec.cmp b q a p == .eq) = (Spec.cmp a p b q == .eq) := by
  rw [spec_cmp_swap a p b q]; cases Spec.cmp a p b q <;> rfl

theorem spec_cmp_eq_iff (a : Int) (p : Nat) (b : Int) (q : Nat) :
    Spec.cmp a p b q = .eq ↔ a * (10 : Int) ^ q = b * (10 : Int) ^ p := Int.compare_eq_eq

theorem spec_cmp_eq_cases {a b : Int} {p q : Nat} (h : Spec.cmp a p b q = .eq) :
    (∃ k, q = p + k ∧ b = a * (10 : Int) ^ k) ∨ (∃ k, p = q + k ∧ a = b * (10 : Int) ^ k) := by
  rw [spec_cmp_eq_iff] at h
  rcases Nat.le_total p q with hpq | hpq
  · refine Or.inl ⟨q - p, by omega, ?_⟩
    rw [pow10_split hpq, ← Int.mul_assoc] at h
    exact (Int.eq_of_mul_eq_mul_right (Int.ne_of_gt (pow10_pos p)) h).symm
  · refine Or.inr ⟨p - q, by omega, ?_⟩
    rw [pow10_split hpq, ← Int.mul_assoc] at h
    exact Int.eq_of_mul_eq_mul_right (Int.ne_of_gt (pow10_pos q)) h

/-- what does not see trailing zeros depends on the value only -/
theorem eq_of_spec_cmp_eq {β : Sort _} {F : Int → Nat → β} (hF : ∀ a p k, F (a * (10 : Int) ^ k) (p + k) = F a p)
    {a b : Int} {p q : Nat} (h : Spec.cmp a p b q = .eq) : F a p = F b q := by
  rcases spec_cmp_eq_cases h with ⟨k, rfl, rfl⟩ | ⟨k, rfl, rfl⟩
  · exact (hF a p k).symm
  · exact hF b q k

theorem checkedI128_scaled (a : Int) {P : Int} (hP : 1 ≤ P) :
    checkedI128 (a * P) = some (a * P) ∨
    checkedI128 (a * P) = none ∧ (0 < a ∧ I128_MAX < a * P ∨ a < 0 ∧ a * P < I128_MIN) := by
  by_cases hf : fitsI128 (a * P) = true
  · exact Or.inl (checkedI128_some hf)
  · refine Or.inr ⟨checkedI128_none (by simpa using hf), ?_⟩
    rw [fitsI128_iff] at hf
    unfold I128_MIN I128_MAX at *
    rcases Int.lt_trichotomy a 0 with ha | rfl | ha
    · have := Int.mul_nonpos_of_nonpos_of_nonneg (Int.le_of_lt ha) (Int.le_trans Int.one_nonneg hP)
      omega
    · omega
    · have := Int.mul_nonneg (Int.le_of_lt ha) (Int.le_trans Int.one_nonneg hP)
      omega

theorem partialCmp_spec_full (x y : Dec) (hx : DomI x) (hy : DomI y) :
    partialCmp x y = some (Spec.cmp x.coeff x.nfrac y.coeff y.nfrac) := by
  obtain ⟨hx1, hx2, hx3⟩ := hx
  obtain ⟨hy1, hy2, hy3⟩ := hy
  unfold partialCmp checkedAdjustCoeffs
  rcases Nat.lt_trichotomy x.nfrac y.nfrac with hpq | hpq | hpq
  · rw [Nat.compare_eq_lt.mpr hpq]
    simp only []
    rw [checkedMulPowTen_eq _ _ (by omega), spec_cmp_left _ _ _ _ (Nat.le_of_lt hpq)]
    rcases checkedI128_scaled x.coeff (pow10_pos (y.nfrac - x.nfrac)) with hc | ⟨hc, ⟨ha, hb⟩ | ⟨ha, hb⟩⟩ <;> rw [hc]
    · rfl
    · exact (if_pos ha).trans (congrArg some (Int.compare_eq_gt.mpr (by omega)).symm)
    · exact (if_neg (by omega)).trans (congrArg some (Int.compare_eq_lt.mpr (by omega)).symm)
  · rw [Nat.compare_eq_eq.mpr hpq, spec_cmp_left _ _ _ _ (Nat.le_of_eq hpq), hpq, Nat.sub_self, Int.pow_zero, Int.mul_one]
    rfl
  · rw [Nat.compare_eq_gt.mpr hpq]
    simp only []
    rw [checkedMulPowTen_eq _ _ (by omega), spec_cmp_right _ _ _ _ (Nat.le_of_lt hpq)]
    rcases checkedI128_scaled y.coeff (pow10_pos (x.nfrac - y.nfrac)) with hc | ⟨hc, ⟨ha, hb⟩ | ⟨ha, hb⟩⟩ <;> rw [hc]
    · rfl
    · exact (if_neg (by omega)).trans (congrArg some (Int.compare_eq_lt.mpr (by omega)).symm)
    · exact (if_pos ha).trans (congrArg some (Int.compare_eq_gt.mpr (by omega)).symm)

/-- `Ord::cmp` never panics -/
theorem cmp_spec (x y : Dec) (hx : Dom x) (hy : Dom y) :
    Model.cmp x y = .ok (Spec.cmp x.coeff x.nfrac y.coeff y.nfrac) := by
  unfold Model.cmp
  rw [partialCmp_spec_full x y hx.domI hy.domI]

theorem decimalEq_eq_partialCmp (x y : Dec) : decimalEq x y = (partialCmp x y == some .eq) := by
  unfold decimalEq partialCmp
  rcases checkedAdjustCoeffs x.coeff x.nfrac y.coeff y.nfrac with ⟨_ | a, _ | b⟩ <;> simp only []
  · rfl
  · split <;> rfl
  · split <;> rfl
  · exact (compare_beq_eq a b).symm

theorem decimalEq_spec_full (x y : Dec) (hx : DomI x) (hy : DomI y) :
    decimalEq x y = (Spec.cmp x.coeff x.nfrac y.coeff y.nfrac == .eq) := by
  rw [decimalEq_eq_partialCmp, partialCmp_spec_full x y hx hy]; rfl

/-- range of an integer operand: signed types are subsets of i128, unsigned ones of u64 -/
def IntOperand (signed : Bool) (i : Int) : Prop :=
  if signed then I128_MIN ≤ i ∧ i ≤ I128_MAX else 0 ≤ i ∧ i < 18446744073709551616

theorem intOperand_range {signed : Bool} {i : Int} (h : IntOperand signed i) : I128_MIN ≤ i ∧ i ≤ I128_MAX := by
  unfold IntOperand at h
  cases signed
  · rw [if_neg Bool.false_ne_true] at h
    unfold I128_MIN I128_MAX
    omega
  · exact h

/-- the signed integer body is the Decimal body on `Decimal::from(i)` -/
theorem partialCmpDecInt_signed (d : Dec) (i : Int) (hi : fitsI128 i = true) :
    partialCmpDecInt true d i = partialCmp d ⟨i, 0⟩ := by
  unfold partialCmpDecInt partialCmp checkedAdjustCoeffs
  rcases Nat.eq_zero_or_pos d.nfrac with h | h
  · rw [h, checkedMulPowTen_zero hi]; rfl
  · rw [Nat.compare_eq_gt.mpr h, if_pos rfl]
    cases checkedMulPowTen i (d.nfrac - 0)
    · -- on overflow both decide by the sign of `i`, one asking `i ≥ 0`, the other `i < 0`
      exact (if_congr Int.not_lt.symm rfl rfl).trans (ite_not (i < 0) _ _)
    · rfl

/-- the unsigned body answers `Less` at once where the signed one gets there through the overflow test -/
theorem partialCmpDecInt_unsigned (d : Dec) (i : Int) (hi : 0 ≤ i) :
    partialCmpDecInt false d i = if d.coeff < 0 then some .lt else partialCmpDecInt true d i := by
  unfold partialCmpDecInt isNegative
  simp only [Bool.false_eq_true, if_false, if_true, decide_eq_true_eq, if_pos hi]

theorem partialCmpDecInt_spec (signed : Bool) (d : Dec) (i : Int) (hd : Dom d) (hi : IntOperand signed i) :
    partialCmpDecInt signed d i = some (Spec.cmp d.coeff d.nfrac i 0) := by
  have hr := intOperand_range hi
  have key := (partialCmpDecInt_signed d i ((fitsI128_iff i).mpr hr)).trans
    (partialCmp_spec_full d ⟨i, 0⟩ hd.domI (domI_fromInt hr))
  cases signed
  · have hi' : 0 ≤ i := by simpa [IntOperand] using hi.1
    rw [partialCmpDecInt_unsigned d i hi']
    split
    · next hneg =>
      rw [spec_cmp_right _ _ _ _ (Nat.zero_le _),
        Int.compare_eq_lt.mpr (Int.lt_of_lt_of_le hneg (Int.mul_nonneg hi' (Int.le_of_lt (pow10_pos _))))]
    · exact key
  · exact key

theorem partialCmpIntDec_eq_swap (signed : Bool) (i : Int) (d : Dec) :
    partialCmpIntDec signed i d = (partialCmpDecInt signed d i).map Ordering.swap := by
  unfold partialCmpIntDec partialCmpDecInt
  cases signed <;> cases isNegative d <;> cases checkedMulPowTen i d.nfrac <;> simp [cmpInt, Int.compare_swap]
  -- left: `if i < 0 then lt else gt` against the swapped `if i ≥ 0 then lt else gt`
  all_goals by_cases h : 0 ≤ i <;> simp [h, Int.not_lt.mpr, Int.not_le.mp]

/-- `int == Decimal` forwards to `Decimal == int` in the crate and has no model function of its own. -/
theorem decEqInt_eq_partialCmp (signed : Bool) (d : Dec) (i : Int) :
    decEqInt signed d i = (partialCmpDecInt signed d i == some .eq) := by
  unfold decEqInt partialCmpDecInt
  cases signed <;> cases isNegative d <;> cases checkedMulPowTen i d.nfrac <;> simp [cmpInt, compare_beq_eq]
  all_goals split <;> decide

end Fpdec
