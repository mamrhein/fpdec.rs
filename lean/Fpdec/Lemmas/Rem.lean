import Fpdec.Lemmas.TruncDiv
import Fpdec.Lemmas.Dom

/-!
# C10 — Remainder satisfies the truncated-division identity exactly

The model (`remLoop`, `remCore`, `remDecDec`, `remDecInt`, `remIntDec`, `fract` in Model/Decimal.lean) mirrors
/repo/src/binops/rem.rs and checked_rem.rs.  `Spec.rem` (Spec/Arith.lean): with `m = max p q`, `A = a·10^(m-p)`, `B = b·10^(m-q)`
the result is `(A tmod B, m)`; the overflow signal is additionally allowed only when the dividend has fewer fractional digits than
the divisor and `A` does not fit an i128 (`Exp.valOrOvf`); a divisor equal to one gives the fractional part of `x` in x's own scale.

What makes `remCore_spec` true: `remI128 x y = ok (x.tmod y)` for `y ≠ 0` and not `(MIN, -1)`; when the *divisor* cannot be scaled
(`p > q`, `|b|·10^(p-q)` does not fit) the dividend is already the remainder because `|B| > 2^127 ≥ |a|`; the digit loop
`remLoop b k r` maintains `r_j = (a·10^j) tmod b` (`tmod_mul_tmod`) and stops early only at remainder 0, so what it returns is the
right value or `none` (`remLoop_spec`; it gives up when `|r|·10` leaves the i128 range, which no lemma here characterises: the spec
allows the overflow signal on that whole branch).
-/

namespace Fpdec
open Fpdec.Model

theorem remLoop_spec (b : Int) (hb0 : b ≠ 0) : ∀ (k : Nat) (x : Int),
    remLoop b k (x.tmod b) = .ok none ∨ remLoop b k (x.tmod b) = .ok (some ((x * (10 : Int) ^ k).tmod b)) := by
  intro k
  induction k with
  | zero => intro x; right; simp [remLoop]
  | succ k ih =>
    intro x
    unfold remLoop
    by_cases h0 : x.tmod b = 0
    · right
      rw [if_pos h0, ← tmod_mul_tmod, h0, Int.zero_mul, Int.zero_tmod]
    · rw [if_neg h0]
      cases hf : fitsI128 (x.tmod b * 10)
      · rw [checkedI128_none hf]
        exact .inl rfl
      · -- a multiple of ten is not `i128::MIN`, so `%` does not panic
        rw [checkedI128_some hf]
        dsimp only
        rw [remI128_eq hb0 (.inl (by unfold I128_MIN; omega)), Outcome.bind_ok, tmod_mul_tmod, Int.pow_succ,
          Int.mul_comm ((10 : Int) ^ k), ← Int.mul_assoc]
        exact ih (x * 10)

/-- the core function `rem(a, p, b, q)` for a non-zero divisor -/
theorem remCore_spec (a : Int) (p : Nat) (b : Int) (q : Nat)
    (ha : I128_MIN ≤ a ∧ a ≤ I128_MAX) (hb : I128_MIN ≤ b ∧ b ≤ I128_MAX) (hb0 : b ≠ 0) (hp : p ≤ 18) (hq : q ≤ 18) :
    Spec.allowedChecked
      (let m := max p q
       let A := a * (10 : Int) ^ (m - p)
       let B := b * (10 : Int) ^ (m - q)
       if p < q ∧ !Spec.fits A then Spec.Exp.valOrOvf (A.tmod B) m else Spec.Exp.val (A.tmod B) m)
      (outOptPair (remCore a p b q)) = true := by
  have _ := hb
  unfold remCore
  dsimp only
  rcases Nat.lt_trichotomy p q with h | h | h
  · -- the dividend has fewer fractional digits: it is scaled, or the digit loop runs
    rw [Nat.compare_eq_lt.2 h, Nat.max_eq_right (Nat.le_of_lt h), Nat.sub_self, Int.pow_zero, Int.mul_one, spec_fits_eq]
    dsimp only
    rw [checkedMulPowTen_eq _ _ (by omega)]
    cases hf : fitsI128 (a * (10 : Int) ^ (q - p))
    · rw [checkedI128_none hf, if_pos ⟨h, rfl⟩]
      dsimp only
      rw [wrappingRemI128_ok hb0, Outcome.bind_ok]
      rcases remLoop_spec b hb0 (q - p) a with hl | hl <;> rw [hl]
      · rfl
      · exact allowedChecked_val_self ⟨_, _⟩
    · rw [checkedI128_some hf, if_neg (fun hh => Bool.false_ne_true hh.2)]
      dsimp only
      rw [remI128_eq hb0 (.inl (mul_pow10_ne_min a (q - p) (by omega)))]
      exact allowedChecked_val_self ⟨_, _⟩
  · subst h
    rw [Nat.compare_eq_eq.2 rfl, Nat.max_self, Nat.sub_self, Int.pow_zero, Int.mul_one, Int.mul_one, if_neg (fun hh => Nat.lt_irrefl _ hh.1)]
    dsimp only
    rw [wrappingRemI128_ok hb0]
    exact allowedChecked_val_self ⟨_, _⟩
  · -- the divisor has fewer fractional digits: it is scaled, or (too large for an i128) the dividend is the remainder
    have hten := ten_dvd_mul_pow10 b (m := p - q) (by omega)
    rw [Nat.compare_eq_gt.2 h, Nat.max_eq_left (Nat.le_of_lt h), Nat.sub_self, Int.pow_zero, Int.mul_one,
      if_neg (fun hh => Nat.lt_asymm h hh.1)]
    dsimp only
    rw [checkedMulPowTen_eq _ _ (by omega)]
    cases hf : fitsI128 (b * (10 : Int) ^ (p - q))
    · rw [checkedI128_none hf]
      dsimp only
      -- the scaled divisor is a multiple of ten, so it is not `2^127` itself: `|B| > 2^127 ≥ |a|`
      rw [tmod_eq_self_of_natAbs_lt (a := a) (B := b * (10 : Int) ^ (p - q))]
      · exact allowedChecked_val_self ⟨_, _⟩
      · have hnf : ¬ (I128_MIN ≤ b * (10 : Int) ^ (p - q) ∧ b * (10 : Int) ^ (p - q) ≤ I128_MAX) :=
          fun hh => Bool.false_ne_true (hf ▸ (fitsI128_iff _).mpr hh)
        unfold I128_MIN I128_MAX at *
        omega
    · rw [checkedI128_some hf]
      dsimp only
      rw [remI128_eq (Int.mul_ne_zero hb0 (Int.ne_of_gt (pow10_pos _))) (.inr (by omega))]
      exact allowedChecked_val_self ⟨_, _⟩

/-- the body shared by `%` and `checked_rem` with its short cuts spelled as propositions -/
theorem remDecDec_eq (x y : Dec) (hp : x.nfrac ≤ 18) (hq : y.nfrac ≤ 18) :
    remDecDec x y =
      if x.coeff = 0 then .ok (some Dec.ZERO)
      else if y.coeff = (10 : Int) ^ y.nfrac then
        .ok (some (if x.nfrac = 0 then Dec.ZERO else ⟨x.coeff.tmod ((10 : Int) ^ x.nfrac), x.nfrac⟩))
      else remCore x.coeff x.nfrac y.coeff y.nfrac := by
  unfold remDecDec
  simp only [eqOne_eq y hq, fract_eq x (Nat.le_trans hp (by decide)), eqZero, Outcome.bind_ok, decide_eq_true_eq, Outcome.pure_eq]

/-- `Spec.rem` likewise; the last branch is the expectation of `remCore_spec` -/
theorem spec_rem_eq (a : Int) (p : Nat) (b : Int) (q : Nat) :
    Spec.rem a p b q =
      if b = 0 then .divzero
      else if a = 0 then .val 0 0
      else if b = (10 : Int) ^ q then (if p = 0 then .val 0 0 else .val (a.tmod ((10 : Int) ^ p)) p)
      else (let m := max p q
            let A := a * (10 : Int) ^ (m - p)
            let B := b * (10 : Int) ^ (m - q)
            if p < q ∧ !Spec.fits A then Spec.Exp.valOrOvf (A.tmod B) m else Spec.Exp.val (A.tmod B) m) := by
  unfold Spec.rem
  simp only [Spec.isOne, decide_eq_true_eq]

theorem spec_rem_valOvf (a : Int) (p : Nat) (b : Int) (q : Nat) (hb0 : b ≠ 0) : (Spec.rem a p b q).ValOvf := by
  rw [spec_rem_eq, if_neg hb0]
  exact .ite trivial (.ite (.ite trivial trivial) (.ite trivial trivial))

/-- Decimal % Decimal after the zero-divisor test, on i128 coefficients: every operand shape is an instance (an integer operand
    is `Decimal::from(i)`, `i128::MIN` included) -/
theorem remDecDec_spec (x y : Dec) (hx : DomI x) (hy : DomI y) (hy0 : y.coeff ≠ 0) :
    Spec.allowedChecked (Spec.rem x.coeff x.nfrac y.coeff y.nfrac) (outOptPair (remDecDec x y)) = true := by
  rw [remDecDec_eq x y hx.2.2 hy.2.2, spec_rem_eq, if_neg hy0]
  refine allowedChecked_ite (fun _ => rfl) fun _ => ?_
  refine allowedChecked_ite (fun _ => ?_) fun _ => ?_
  · split
    · rfl
    · exact allowedChecked_val_self ⟨_, _⟩
  · exact remCore_spec _ _ _ _ ⟨hx.1, hx.2.1⟩ ⟨hy.1, hy.2.1⟩ hy0 hx.2.2 hy.2.2

theorem remDecDec_fromInt (x : Dec) (i : Int) : remDecDec x ⟨i, 0⟩ = remDecInt x i := by
  unfold remDecDec remDecInt
  rw [eqOne_fromInt]
  simp only [Outcome.bind_ok, decide_eq_true_eq]

theorem remDecDec_fromInt_left (i : Int) (y : Dec) : remDecDec ⟨i, 0⟩ y = remIntDec i y := by
  unfold remDecDec remIntDec
  simp only [eqZero, decide_eq_true_eq]
  rfl

/-- `x % y` (operator: panics on a zero divisor and on the permitted overflow) -/
theorem rem_spec (x y : Dec) (hx : Dom x) (hy : Dom y) :
    Spec.allowedOp (Spec.rem x.coeff x.nfrac y.coeff y.nfrac)
      (outPair (opOfChecked (eqZero y) (if eqZero y then .ok none else remDecDec x y))) = true := by
  rw [opOfChecked_ite_self]
  refine allowedOp_opOfChecked (fun hz => if_pos (of_decide_eq_true hz)) fun hz => ?_
  have hy0 := (eqZero_eq_false_iff y).mp hz
  exact ⟨spec_rem_valOvf _ _ _ _ hy0, remDecDec_spec x y hx.domI hy.domI hy0⟩

/-- `x.checked_rem(y)`: `None` for a zero divisor / the permitted overflow; never panics -/
theorem checked_rem_spec (x y : Dec) (hx : Dom x) (hy : Dom y) :
    Spec.allowedChecked (Spec.rem x.coeff x.nfrac y.coeff y.nfrac)
      (outOptPair (checkedOfChecked (eqZero y) (if eqZero y then .ok none else remDecDec x y))) = true := by
  rw [checkedOfChecked_ite_self]
  exact allowedChecked_checkedOfChecked (fun hz => if_pos (of_decide_eq_true hz)) fun hz =>
    remDecDec_spec x y hx.domI hy.domI ((eqZero_eq_false_iff y).mp hz)

/-- Decimal % int: same as with `Decimal::from(i)` on the right (`i` any i128 value) -/
theorem rem_dec_int_spec (x : Dec) (i : Int) (hx : Dom x) (hi : I128_MIN ≤ i ∧ i ≤ I128_MAX) (hi0 : i ≠ 0) :
    Spec.allowedChecked (Spec.rem x.coeff x.nfrac i 0) (outOptPair (remDecInt x i)) = true :=
  remDecDec_fromInt x i ▸ remDecDec_spec x ⟨i, 0⟩ hx.domI (domI_fromInt hi) hi0

/-- int % Decimal: same as with `Decimal::from(i)` on the left -/
theorem rem_int_dec_spec (i : Int) (y : Dec) (hy : Dom y) (hi : I128_MIN ≤ i ∧ i ≤ I128_MAX) (hy0 : y.coeff ≠ 0) :
    Spec.allowedChecked (Spec.rem i 0 y.coeff y.nfrac) (outOptPair (remIntDec i y)) = true :=
  remDecDec_fromInt_left i y ▸ remDecDec_spec ⟨i, 0⟩ y (domI_fromInt hi) hy.domI hy0

end Fpdec
