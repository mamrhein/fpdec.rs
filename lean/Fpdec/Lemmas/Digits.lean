import Fpdec.Spec.Text
import Fpdec.Model.Format

/-! # Decimal digit lists: `Spec.digitsOf` (core's `Nat.toDigits 10`) and the model's `decDigits` -/

namespace Fpdec
open Fpdec.Model

theorem digitsOf_lt {n : Nat} (h : n < 10) : Spec.digitsOf n = [48 + n] := by
  rw [Spec.digitsOf, Nat.toDigits_of_lt_base h, List.map_singleton, Nat.toNat_digitChar_of_lt_ten h]

theorem digitsOf_zero : Spec.digitsOf 0 = [48] := digitsOf_lt (by decide)

theorem digitsOf_ge {n : Nat} (h : 10 ≤ n) : Spec.digitsOf n = Spec.digitsOf (n / 10) ++ [48 + n % 10] := by
  rw [Spec.digitsOf, Nat.toDigits_of_base_le (by decide) h, List.map_append, List.map_singleton,
    Nat.toNat_digitChar_of_lt_ten (Nat.mod_lt n (by decide))]
  rfl

theorem decDigitsAux_eq (fuel : Nat) : ∀ (n : Nat) (acc : List Nat), n < fuel →
    decDigitsAux fuel n acc = Spec.digitsOf n ++ acc := by
  induction fuel with
  | zero => exact fun n _ h => absurd h (Nat.not_lt_zero n)
  | succ fuel ih =>
    intro n acc h
    unfold decDigitsAux
    simp only []
    by_cases h10 : n < 10
    · rw [if_pos (Nat.div_eq_of_lt h10), digitsOf_lt h10, Nat.mod_eq_of_lt h10]
      rfl
    · have h10 : 10 ≤ n := Nat.le_of_not_lt h10
      have hlt : n / 10 < fuel :=
        Nat.lt_of_lt_of_le (Nat.div_lt_self (Nat.lt_of_lt_of_le (by decide) h10) (by decide)) (Nat.le_of_lt_succ h)
      rw [if_neg (Nat.ne_of_gt (Nat.div_pos h10 (by decide))), ih (n / 10) _ hlt, digitsOf_ge h10, List.append_assoc]
      rfl

theorem decDigits_eq (n : Nat) : decDigits n = Spec.digitsOf n := by
  rw [decDigits, decDigitsAux_eq (n + 1) n [] (Nat.lt_succ_self n), List.append_nil]

theorem digitsOf_isDig (n : Nat) : ∀ c ∈ Spec.digitsOf n, Spec.isDig c = true := by
  intro c hc
  obtain ⟨ch, hch, rfl⟩ := List.mem_map.mp hc
  -- core: the characters of `Nat.toDigits 10 n` satisfy `Char.isDigit`, the same test on the code point
  have h := Nat.isDigit_of_mem_toDigits (by decide) (by decide) hch
  simpa only [Spec.isDig, Bool.and_eq_true, decide_eq_true_eq, Char.isDigit, ↓Char.isValue, Char.reduceVal,
    ge_iff_le, UInt32.le_iff_toNat_le, UInt32.reduceToNat, Char.toNat_val] using h

theorem zeros_digits (n : Nat) : ∀ c ∈ List.replicate n 48, Spec.isDig c = true :=
  fun _ hc => (List.mem_replicate.mp hc).2 ▸ rfl

theorem digitsOf_length_pos (n : Nat) : 0 < (Spec.digitsOf n).length := by
  unfold Spec.digitsOf
  simpa using Nat.length_toDigits_pos

theorem digitsOf_ne_nil (n : Nat) : Spec.digitsOf n ≠ [] := List.ne_nil_of_length_pos (digitsOf_length_pos n)

theorem digitsOf_length_le {n k : Nat} (hk : 0 < k) : (Spec.digitsOf n).length ≤ k ↔ n < 10 ^ k := by
  unfold Spec.digitsOf
  rw [List.length_map]
  exact Nat.length_toDigits_le_iff (by decide) hk

/-- the number `a` with the digits `ds` appended, as the accumulation loops of the parser compute it; `digitsVal` starts from 0 -/
def pushDigits (a : Nat) (ds : List Nat) : Nat := ds.foldl (fun acc c => acc * 10 + (c - 48)) a

theorem pushDigits_cons (a c : Nat) (ds : List Nat) : pushDigits a (c :: ds) = pushDigits (a * 10 + (c - 48)) ds :=
  List.foldl_cons ..

theorem pushDigits_append (a : Nat) (xs ys : List Nat) : pushDigits a (xs ++ ys) = pushDigits (pushDigits a xs) ys :=
  List.foldl_append ..

theorem pushDigits_eq (a : Nat) (ds : List Nat) : pushDigits a ds = a * 10 ^ ds.length + Spec.digitsVal ds := by
  show _ = _ + pushDigits 0 ds
  induction ds generalizing a with
  | nil => exact (Nat.mul_one a).symm
  | cons x xs ih =>
    rw [pushDigits_cons, pushDigits_cons, ih, ih (0 * 10 + _), Nat.zero_mul, Nat.zero_add, List.length_cons, Nat.pow_succ,
      Nat.add_mul, Nat.mul_assoc, Nat.mul_comm 10, Nat.add_assoc]

theorem digitsVal_append (xs ys : List Nat) :
    Spec.digitsVal (xs ++ ys) = Spec.digitsVal xs * 10 ^ ys.length + Spec.digitsVal ys :=
  (pushDigits_append 0 xs ys).trans (pushDigits_eq _ ys)

theorem digitsVal_replicate_zero (k : Nat) : Spec.digitsVal (List.replicate k 48) = 0 := by
  induction k with
  | zero => rfl
  | succ k ih =>
    rw [List.replicate_succ', digitsVal_append, ih]
    simp [Spec.digitsVal]

theorem digitsVal_zeros_append (n : Nat) (l : List Nat) : Spec.digitsVal (List.replicate n 48 ++ l) = Spec.digitsVal l := by
  rw [digitsVal_append, digitsVal_replicate_zero, Nat.zero_mul, Nat.zero_add]

theorem digitsVal_zero_cons (ds : List Nat) : Spec.digitsVal (48 :: ds) = Spec.digitsVal ds := digitsVal_zeros_append 1 ds

theorem digitsVal_singleton (d : Nat) : Spec.digitsVal [48 + d] = d := by
  simp [Spec.digitsVal]

theorem digitsVal_digitsOf (n : Nat) : Spec.digitsVal (Spec.digitsOf n) = n := by
  induction n using Nat.strongRecOn with
  | _ n ih =>
    by_cases h : n < 10
    · rw [digitsOf_lt h, digitsVal_singleton]
    · have h : 10 ≤ n := Nat.le_of_not_lt h
      rw [digitsOf_ge h, digitsVal_append, ih (n / 10) (Nat.div_lt_self (Nat.lt_of_lt_of_le (by decide) h) (by decide)),
        digitsVal_singleton]
      exact Nat.div_add_mod' n 10

end Fpdec
