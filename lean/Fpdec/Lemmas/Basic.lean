import Fpdec.Model.Decimal
import Fpdec.Spec.Arith
import Fpdec.Lemmas.Bits

/-!
# The table of powers of ten and the i128 range

`Gen.POWERS_OF_10`, `Gen.CHECKED_TEN_POW_LIMIT` and `Gen.MAX_N_FRAC_DIGITS` are read from the Rust source on every run; the `decide`
facts about them are where the bounds 38 and 18 of all later statements meet the source.  38 is the last index of the table and the
largest `n` with `10^n ≤ i128::MAX` (`pow10_le_max`, `pow10_gt_max`).
-/

namespace Fpdec
open Fpdec.Model

theorem pow10_table : ∀ n, n ≤ 38 → Gen.POWERS_OF_10[n]? = some ((10 : Int) ^ n) := by decide

theorem pow10_table_size : Gen.POWERS_OF_10.size = 39 := by decide

theorem checked_limit : Gen.CHECKED_TEN_POW_LIMIT = 38 := by decide
theorem max_nfrac : Gen.MAX_N_FRAC_DIGITS = 18 := by decide

theorem tenPow_ok (n : Nat) (h : n ≤ 38) : tenPow n = .ok ((10 : Int) ^ n) := by
  unfold tenPow; rw [pow10_table n h]

theorem tenPow_index (n : Nat) (h : 38 < n) : tenPow n = .panic .index := by
  unfold tenPow
  have : Gen.POWERS_OF_10[n]? = none := by
    apply Array.getElem?_eq_none
    rw [pow10_table_size]; omega
  rw [this]

theorem eqZero_eq_false_iff (d : Dec) : eqZero d = false ↔ d.coeff ≠ 0 := by
  simp [eqZero]

theorem eqZero_or (x y : Dec) : (eqZero x || eqZero y) = true ↔ (x.coeff = 0 ∨ y.coeff = 0) := by
  simp [eqZero]

theorem eqOne_eq (d : Dec) (h : d.nfrac ≤ 18) : eqOne d = .ok (decide (d.coeff = (10 : Int) ^ d.nfrac)) := by
  unfold eqOne
  rw [tenPow_ok _ (by omega)]
  rfl

theorem isOne_eq (c : Int) (p : Nat) : Spec.isOne c p = decide (c = (10 : Int) ^ p) := rfl

theorem eqOne_fromInt (i : Int) : eqOne ⟨i, 0⟩ = .ok (decide (i = 1)) := by
  rw [eqOne_eq _ (Nat.zero_le _), Int.pow_zero]

theorem checkedTenPow_some (n : Nat) (h : n ≤ 38) : checkedTenPow n = some ((10 : Int) ^ n) := by
  unfold checkedTenPow
  rw [checked_limit]
  have : ¬ n > 38 := by omega
  simp only [this, if_false]
  exact pow10_table n h

theorem checkedTenPow_none (n : Nat) (h : 38 < n) : checkedTenPow n = none := by
  unfold checkedTenPow
  rw [checked_limit]
  simp [h]

theorem fitsI128_iff (x : Int) : fitsI128 x = true ↔ (I128_MIN ≤ x ∧ x ≤ I128_MAX) := by
  unfold fitsI128; simp

theorem fitsI128_neg {v : Int} (h1 : v ≠ I128_MIN) (h2 : -v ≠ I128_MIN) : fitsI128 (-v) = fitsI128 v := by
  rw [Bool.eq_iff_iff, fitsI128_iff, fitsI128_iff]
  unfold I128_MIN I128_MAX at *
  omega

theorem sign_fits (x : Int) : fitsI128 (Int.sign x) = true := by
  rcases Int.sign_trichotomy x with h | h | h <;> rw [h] <;> rfl

theorem fits_natCast {n : Nat} (h : (n : Int) ≤ I128_MAX) : fitsI128 (n : Int) = true :=
  (fitsI128_iff _).mpr ⟨Int.le_trans (by decide) (Int.natCast_nonneg n), h⟩

theorem wrapI128_fits (x : Int) : fitsI128 (wrapI128 x) = true := by
  rw [fitsI128_iff]; unfold wrapI128 I128_MIN I128_MAX; omega

theorem spec_fits_eq (x : Int) : Spec.fits x = fitsI128 x := by
  unfold Spec.fits fitsI128 I128_MIN I128_MAX
  rw [pow2_127]; rfl

theorem checkedI128_some {x : Int} (h : fitsI128 x = true) : checkedI128 x = some x := by
  unfold checkedI128; simp [h]

theorem checkedI128_none {x : Int} (h : fitsI128 x = false) : checkedI128 x = none := by
  unfold checkedI128; simp [h]

theorem checkedI128_fits (x v : Int) (h : checkedI128 x = some v) : fitsI128 v = true := by
  unfold checkedI128 at h
  split at h
  · next hf => exact Option.some.inj h ▸ hf
  · cases h

theorem plainI128_ok (prof : Profile) {x : Int} (h : fitsI128 x = true) : plainI128 prof x = .ok x := by
  unfold plainI128; simp [h]

theorem debugAssert_true (prof : Profile) : debugAssert prof true = .ok () := by
  unfold debugAssert; simp

theorem pow10_pos (n : Nat) : (0 : Int) < (10 : Int) ^ n := Int.pow_pos (by decide)

theorem pow10_mono {j k : Nat} (h : j ≤ k) : (10 : Int) ^ j ≤ (10 : Int) ^ k := int_pow_mono (by decide) h

theorem pow10_split {j k : Nat} (h : j ≤ k) : (10 : Int) ^ k = (10 : Int) ^ (k - j) * (10 : Int) ^ j := by
  rw [← Int.pow_add, Nat.sub_add_cancel h]

theorem natAbs_mul_pow10 (a : Int) (k : Nat) : (a * (10 : Int) ^ k).natAbs = a.natAbs * 10 ^ k := by
  rw [Int.natAbs_mul, Int.natAbs_pow]; rfl

theorem pow10_gt_max {k : Nat} (h : 39 ≤ k) : 2 * I128_MAX < (10 : Int) ^ k := by
  have h39 : 2 * I128_MAX < (10 : Int) ^ 39 := by decide
  have : (10 : Int) ^ 39 ≤ (10 : Int) ^ k := pow10_mono h
  omega

theorem pow10_le_max {k : Nat} (h : k ≤ 38) : (10 : Int) ^ k ≤ I128_MAX := by
  have h38 : (10 : Int) ^ 38 ≤ I128_MAX := by decide
  have : (10 : Int) ^ k ≤ (10 : Int) ^ 38 := pow10_mono h
  omega

theorem pow10_even {s : Nat} (hs : 1 ≤ s) : (10 : Int) ^ s % 2 = 0 := by
  obtain ⟨j, rfl⟩ : ∃ j, s = j + 1 := ⟨s - 1, by omega⟩
  rw [Int.pow_succ]; omega

theorem ten_dvd_mul_pow10 (k : Int) {m : Nat} (hm : 0 < m) : (10 : Int) ∣ k * (10 : Int) ^ m := by
  obtain ⟨j, rfl⟩ : ∃ j, m = j + 1 := ⟨m - 1, by omega⟩
  exact ⟨k * (10 : Int) ^ j, by rw [Int.pow_succ, Int.mul_comm ((10 : Int) ^ j) 10, Int.mul_left_comm]⟩

/-- `2^127` is not a multiple of ten -/
theorem mul_pow10_ne_min (k : Int) (m : Nat) (hm : 0 < m) : k * (10 : Int) ^ m ≠ I128_MIN := by
  have := ten_dvd_mul_pow10 k hm
  unfold I128_MIN; omega

theorem mul_pow10_ne_min_of_ne {k : Int} (hk : k ≠ I128_MIN) (m : Nat) : k * (10 : Int) ^ m ≠ I128_MIN := by
  rcases Nat.eq_zero_or_pos m with rfl | hm
  · rwa [Int.pow_zero, Int.mul_one]
  · exact mul_pow10_ne_min k m hm

theorem checkedMulPowTen_eq (v : Int) (n : Nat) (h : n ≤ 38) :
    checkedMulPowTen v n = checkedI128 (v * (10 : Int) ^ n) := by
  unfold checkedMulPowTen
  rw [checkedTenPow_some n h]
  rfl

theorem checkedMulPowTen_fits (a : Int) (n : Nat) (v : Int) (h : checkedMulPowTen a n = some v) : fitsI128 v = true := by
  unfold checkedMulPowTen at h
  cases ht : checkedTenPow n with
  | none => rw [ht] at h; cases h
  | some t => rw [ht] at h; exact checkedI128_fits _ _ h

theorem mulPowTen_eq (v : Int) (n : Nat) (h : n ≤ 38) :
    mulPowTen v n = Outcome.ofOption .overflow (checkedI128 (v * (10 : Int) ^ n)) := by
  unfold mulPowTen
  rw [tenPow_ok n h]
  rfl

theorem mulPowTen_eq_checked (v : Int) (n : Nat) (h : n ≤ 38) :
    mulPowTen v n = Outcome.ofOption .overflow (checkedMulPowTen v n) := by
  rw [mulPowTen_eq v n h, checkedMulPowTen_eq v n h]

theorem checkedMulPowTen_zero {v : Int} (h : fitsI128 v = true) : checkedMulPowTen v 0 = some v := by
  rw [checkedMulPowTen_eq v 0 (by omega), Int.pow_zero, Int.mul_one, checkedI128_some h]

end Fpdec
