import Fpdec.Lemmas.IntoFloatArith
import Fpdec.Lemmas.Bits
import Mathlib.Tactic.Linarith
import Mathlib.Tactic.Ring
import Mathlib.Tactic.LinearCombination

/-!
# `Spec.rneBits`, the specification of C12, is round-to-nearest, ties to even
-/

namespace Fpdec.FloatArith
open Fpdec Fpdec.Spec

/-- value of a bit pattern (sign cleared) times `2^(bias + fracBits - 1)`: always a natural number -/
def sv (f : FloatFmt) (bits : Nat) : Nat :=
  let frac := bits % 2 ^ f.fracBits
  let be := (bits >>> f.fracBits) % 2 ^ f.expBits
  if be = 0 then frac else (frac + 2 ^ f.fracBits) * 2 ^ (be - 1)

theorem decode_sv (f : FloatFmt) (k : Nat) (hk : f.bias = (k : Int) + 1) (bits : Nat) :
    0 < (decodeBits f bits).2 ∧
      (decodeBits f bits).1 * 2 ^ (k + f.fracBits) = sv f bits * (decodeBits f bits).2 := by
  unfold decodeBits sv
  simp only [hk]
  generalize bits % 2 ^ f.fracBits = frac
  generalize (bits >>> f.fracBits) % 2 ^ f.expBits = be
  by_cases h0 : be = 0
  · simp only [if_pos h0]
    rw [show ((k : Int) + 1 + f.fracBits - 1).toNat = k + f.fracBits by omega]
    exact ⟨Nat.two_pow_pos _, rfl⟩
  · simp only [if_neg h0]
    by_cases h1 : (be : Int) - ((k : Int) + 1) - f.fracBits ≥ 0
    · simp only [if_pos h1]
      refine ⟨Nat.one_pos, ?_⟩
      rw [Nat.mul_one, Nat.mul_assoc, ← Nat.pow_add]; congr 2; omega
    · simp only [if_neg h1]
      refine ⟨Nat.two_pow_pos _, ?_⟩
      rw [Nat.mul_assoc, ← Nat.pow_add]; congr 2; omega

/-- the scaled value of every pattern is either below binade `E` (which starts at `2^(fracBits + E)`) or a multiple of its ulp `2^E` -/
theorem sv_multiple (f : FloatFmt) (b E : Nat) :
    sv f b < 2 ^ (f.fracBits + E) ∨ ∃ k, sv f b = k * 2 ^ E := by
  unfold sv
  simp only
  have hfrac : b % 2 ^ f.fracBits < 2 ^ f.fracBits := Nat.mod_lt _ (Nat.two_pow_pos _)
  generalize b % 2 ^ f.fracBits = frac at *
  generalize (b >>> f.fracBits) % 2 ^ f.expBits = be
  by_cases h0 : be = 0
  · rw [if_pos h0]; left
    exact Nat.lt_of_lt_of_le hfrac (Nat.pow_le_pow_right (by decide) (by omega))
  · rw [if_neg h0]
    by_cases hE : E ≤ be - 1
    · right
      refine ⟨(frac + 2 ^ f.fracBits) * 2 ^ (be - 1 - E), ?_⟩
      rw [Nat.mul_assoc, ← Nat.pow_add]; congr 2; omega
    · left
      calc (frac + 2 ^ f.fracBits) * 2 ^ (be - 1) < 2 ^ (f.fracBits + 1) * 2 ^ (be - 1) := by
            apply Nat.mul_lt_mul_of_pos_right _ (Nat.two_pow_pos _)
            rw [Nat.pow_succ]; omega
        _ = 2 ^ (f.fracBits + 1 + (be - 1)) := by rw [← Nat.pow_add]
        _ ≤ 2 ^ (f.fracBits + E) := Nat.pow_le_pow_right (by decide) (by omega)

theorem fields (fb eb be lo : Nat) (hlo : lo < 2 ^ fb) (hbe : be < 2 ^ eb) :
    ((be <<< fb) + lo) % 2 ^ fb = lo ∧ (((be <<< fb) + lo) >>> fb) % 2 ^ eb = be := by
  rw [Nat.shiftLeft_eq, Nat.shiftRight_eq_div_pow]
  constructor
  · rw [Nat.add_comm, Nat.add_mul_mod_self_right, Nat.mod_eq_of_lt hlo]
  · rw [Nat.add_comm, Nat.add_mul_div_right _ _ (Nat.two_pow_pos fb), Nat.div_eq_of_lt hlo, Nat.zero_add,
      Nat.mod_eq_of_lt hbe]

/-- scaled value and parity of an assembled pattern: exponent field `E` plus significand `m ∈ [2^fb, 2^(fb+1)]` (hidden bit or
    carry included), as long as it stays below `2^(expBits + fracBits)` -/
theorem sv_add (f : FloatFmt) (hfb : 1 ≤ f.fracBits) (E m : Nat)
    (hm0 : 2 ^ f.fracBits ≤ m) (hm1 : m ≤ 2 ^ (f.fracBits + 1))
    (hfit : m + (E <<< f.fracBits) < 2 ^ f.expBits * 2 ^ f.fracBits) :
    sv f (m + (E <<< f.fracBits)) = m * 2 ^ E ∧ (m + (E <<< f.fracBits)) % 2 = m % 2 := by
  have hP : 2 ^ (f.fracBits + 1) = 2 * 2 ^ f.fracBits := by rw [Nat.pow_succ, Nat.mul_comm]
  rw [Nat.shiftLeft_eq] at hfit ⊢
  refine ⟨?_, by
    obtain ⟨k, hk⟩ : ∃ k, f.fracBits = k + 1 := ⟨f.fracBits - 1, by omega⟩
    rw [hk, Nat.pow_succ, ← Nat.mul_assoc, Nat.add_mul_mod_self_right]⟩
  -- the exponent field is `E + 1`, or `E + 2` after a carry
  obtain ⟨c, lo, hc, hlo, hm⟩ : ∃ c lo, (c = 1 ∨ c = 2 ∧ lo = 0) ∧ lo < 2 ^ f.fracBits ∧ m = (c <<< f.fracBits) + lo := by
    rcases Nat.lt_or_ge m (2 ^ (f.fracBits + 1)) with h | h
    · exact ⟨1, m - 2 ^ f.fracBits, .inl rfl, by omega, by rw [Nat.one_shiftLeft]; omega⟩
    · exact ⟨2, 0, .inr ⟨rfl, rfl⟩, Nat.two_pow_pos _, by rw [Nat.shiftLeft_eq]; omega⟩
  have hr : m + E * 2 ^ f.fracBits = ((E + c) <<< f.fracBits) + lo := by
    rw [hm, Nat.shiftLeft_eq, Nat.shiftLeft_eq, Nat.add_mul]; omega
  have hbe : E + c < 2 ^ f.expBits := by
    rw [hr, Nat.shiftLeft_eq] at hfit
    exact Nat.lt_of_mul_lt_mul_right (Nat.lt_of_le_of_lt (Nat.le_add_right _ _) hfit)
  obtain ⟨f1, f2⟩ := fields f.fracBits f.expBits (E + c) lo hlo hbe
  unfold sv
  simp only [hr, f1, f2]
  rw [if_neg (by omega), hm, Nat.shiftLeft_eq]
  rcases hc with rfl | ⟨rfl, rfl⟩
  · rw [Nat.add_sub_cancel, Nat.one_mul, Nat.add_comm]
  · rw [Nat.add_zero, Nat.zero_add, show E + 2 - 1 = E + 1 by omega, Nat.pow_succ]
    ring

theorem nearest_sv (f : FloatFmt) (den X E m : Nat) (hden : 0 < den)
    (hm : m = rhe X (den * 2 ^ E)) (hX : den * 2 ^ E * 2 ^ f.fracBits ≤ X) (b : Nat) :
    ((X : Int) - (m * 2 ^ E * den : Nat)).natAbs ≤ ((X : Int) - (sv f b * den : Nat)).natAbs ∧
    (((X : Int) - (m * 2 ^ E * den : Nat)).natAbs = ((X : Int) - (sv f b * den : Nat)).natAbs →
      sv f b ≠ m * 2 ^ E → m % 2 = 0) := by
  subst hm
  have hV : 0 < den * 2 ^ E := Nat.mul_pos hden (Nat.two_pow_pos _)
  have e1 : rhe X (den * 2 ^ E) * 2 ^ E * den = rhe X (den * 2 ^ E) * (den * 2 ^ E) := by ring
  rw [e1]
  rcases sv_multiple f b E with hlt | ⟨k, hk⟩
  · obtain ⟨n1, _⟩ := rhe_nearest X (den * 2 ^ E) (2 ^ f.fracBits) hV
    have hW : 2 ^ f.fracBits * (den * 2 ^ E) ≤ X := by rw [Nat.mul_comm]; exact hX
    have hY : sv f b * den < 2 ^ f.fracBits * (den * 2 ^ E) := by
      calc sv f b * den < 2 ^ (f.fracBits + E) * den := Nat.mul_lt_mul_of_pos_right hlt hden
        _ = 2 ^ f.fracBits * (den * 2 ^ E) := by ring
    constructor
    · omega
    · intro h; omega
  · have e2 : sv f b * den = k * (den * 2 ^ E) := by rw [hk]; ring
    rw [e2]
    obtain ⟨n1, n2⟩ := rhe_nearest X (den * 2 ^ E) k hV
    refine ⟨n1, fun h hne => n2 h ?_⟩
    intro hkm; apply hne; rw [hk, hkm]

/-- no carry out of the top binade: for `num/den < 2^(k+2)·(1 − 2^-(fb+2))` the significand there stays below `2^(fb+1)` -/
theorem rhe_top (num den fb k : Nat) (hden : 0 < den)
    (hhi : num * 2 ^ (fb + 2) < den * (2 ^ (fb + 2) - 1) * 2 ^ (k + 2)) :
    rhe (num * 2 ^ (k + fb)) (den * 2 ^ (2 * k + 1)) < 2 ^ (fb + 1) := by
  apply rhe_lt _ _ _ (Nat.mul_pos hden (Nat.two_pow_pos _))
  -- `hhi` times `2^k`, halved
  have h := Nat.mul_lt_mul_of_pos_right hhi (Nat.two_pow_pos k)
  have hQ : 1 ≤ 2 ^ (fb + 2) := Nat.two_pow_pos _
  rw [Nat.mul_sub_one, Nat.sub_mul, Nat.sub_mul] at h
  have e1 : num * 2 ^ (fb + 2) * 2 ^ k = 2 * (2 * (num * 2 ^ (k + fb))) := by ring
  have e2 : den * 2 ^ (fb + 2) * 2 ^ (k + 2) * 2 ^ k = 2 * (2 * (den * 2 ^ (2 * k + 1) * 2 ^ (fb + 1))) := by ring
  have e3 : den * 2 ^ (k + 2) * 2 ^ k = 2 * (den * 2 ^ (2 * k + 1)) := by ring
  omega

/-- exponent field `E + 1 ≤ 2k + 2` and significand `m ≤ 2P` (`P = 2^fb`), with `m < 2P` in the top binade: below the pattern of
    infinity, `(2k + 3)·P` -/
theorem pattern_lt (P m E k : Nat) (hP : 0 < P) (hm : m ≤ 2 * P) (hE : E ≤ 2 * k + 1) (hc : E = 2 * k + 1 → m < 2 * P) :
    m + E * P < (2 * k + 3) * P := by
  rcases Nat.lt_or_ge E (2 * k + 1) with h | h
  · have := Nat.mul_le_mul_right P (show E + 2 ≤ 2 * k + 2 by omega)
    rw [Nat.add_mul] at this
    rw [show 2 * k + 3 = 2 * k + 2 + 1 by omega, Nat.add_mul (2 * k + 2)]
    omega
  · have := hc (by omega)
    rw [show E = 2 * k + 1 by omega, show 2 * k + 3 = 2 + (2 * k + 1) by omega, Nat.add_mul 2]
    omega

/-- a cross-multiplied distance `|num/den − yn/yd|` when `yn/yd = Y/P` -/
theorem dist_scale (num den yn yd Y P : Nat) (h : yn * P = Y * yd) :
    ((num * yd : Nat) - (yn * den : Nat) : Int).natAbs * P = ((num * P : Nat) - (Y * den : Nat) : Int).natAbs * yd := by
  have := congrArg (fun x : Nat => (x : Int)) h
  have e : (((num * yd : Nat) : Int) - ((yn * den : Nat) : Int)) * ((P : Nat) : Int) =
      (((num * P : Nat) : Int) - ((Y * den : Nat) : Int)) * ((yd : Nat) : Int) := by
    push_cast at this ⊢
    linear_combination (-(den : Int)) * this
  have := congrArg Int.natAbs e
  rwa [Int.natAbs_mul, Int.natAbs_mul, Int.natAbs_natCast, Int.natAbs_natCast] at this

/-- comparing the distances of two fractions `rn/rd`, `yn/yd` to `num/den` is comparing the distances of their values scaled by a
    common `P` (`rn/rd = R/P`, `yn/yd = Y/P`) -/
theorem dist_cmp (num den rn rd yn yd R Y P : Nat) (hP : 0 < P) (hrd : 0 < rd) (hyd : 0 < yd)
    (hr : rn * P = R * rd) (hy : yn * P = Y * yd) :
    let a := ((num * rd : Nat) - (rn * den : Nat) : Int).natAbs
    let a' := ((num * yd : Nat) - (yn * den : Nat) : Int).natAbs
    let c := ((num * P : Nat) - (R * den : Nat) : Int).natAbs
    let c' := ((num * P : Nat) - (Y * den : Nat) : Int).natAbs
    (c ≤ c' → a * yd ≤ a' * rd) ∧ (a * yd = a' * rd → c = c') ∧ (Y = R → yn * rd = rn * yd) := by
  intro a a' c c'
  have h1 : a * yd * P = c * (rd * yd) := by
    rw [Nat.mul_right_comm, show a * P = c * rd from dist_scale num den rn rd R P hr, Nat.mul_assoc]
  have h2 : a' * rd * P = c' * (rd * yd) := by
    rw [Nat.mul_right_comm, show a' * P = c' * yd from dist_scale num den yn yd Y P hy, Nat.mul_assoc, Nat.mul_comm yd]
  refine ⟨fun h => ?_, fun h => ?_, fun h => ?_⟩
  · apply Nat.le_of_mul_le_mul_right _ hP
    rw [h1, h2]; exact Nat.mul_le_mul_right _ h
  · apply Nat.eq_of_mul_eq_mul_right (Nat.mul_pos hrd hyd)
    rw [← h1, ← h2, h]
  · apply Nat.eq_of_mul_eq_mul_right hP
    rw [Nat.mul_right_comm, hy, h, Nat.mul_right_comm, ← hr, Nat.mul_right_comm]

end Fpdec.FloatArith

namespace Fpdec
open Fpdec.Spec Fpdec.FloatArith

theorem bias_nat (f : FloatFmt) (heb : 2 ≤ f.expBits) : ∃ k : Nat, f.bias = (k : Int) + 1 ∧ 2 ^ f.expBits = 2 * k + 4 := by
  obtain ⟨j, hj⟩ : ∃ j, f.expBits = j + 2 := ⟨f.expBits - 2, by omega⟩
  obtain ⟨k, hk⟩ := Nat.exists_eq_add_of_le (Nat.pow_le_pow_right (by decide : 0 < 2) (Nat.le_add_left 1 j))
  refine ⟨k, ?_, by rw [hj, Nat.pow_succ, hk]; omega⟩
  have : ((2 ^ (j + 1) : Nat) : Int) = (2 : Int) ^ (j + 1) := by norm_cast
  unfold FloatFmt.bias
  rw [hj, show j + 2 - 1 = j + 1 from rfl, ← this, hk]
  omega

/-- For `num/den` in the normal range `2^(1-bias) ≤ num/den < 2^(bias+1)·(1 - 2^-(fracBits+2))` the pattern
    `rneBits f num den` is a finite normal pattern whose value (`decodeBits`) is at least as near to `num/den` as the value of
    *any* bit pattern `b` (in particular every finite positive one), and whenever a pattern with a different value is equally
    near, the chosen pattern has an even significand (last bit 0).  Distances are cross-multiplied:
    `|num/den - rn/rd| ≤ |num/den - yn/yd|  ⟺  |num·rd - rn·den|·yd ≤ |num·yd - yn·den|·rd`. -/
theorem rneBits_nearest (f : FloatFmt) (hfb : 1 ≤ f.fracBits) (heb : 2 ≤ f.expBits)
    (num den : Nat) (hnum : 0 < num) (hden : 0 < den)
    (hlo : den ≤ num * 2 ^ (f.bias - 1).toNat)
    (hhi : num * 2 ^ (f.fracBits + 2) < den * (2 ^ (f.fracBits + 2) - 1) * 2 ^ (f.bias + 1).toNat) :
    2 ^ f.fracBits ≤ rneBits f num den ∧ rneBits f num den < (2 ^ f.expBits - 1) * 2 ^ f.fracBits ∧
    ∀ b : Nat,
      let r := decodeBits f (rneBits f num den)
      let y := decodeBits f b
      ((num * r.2 : Nat) - (r.1 * den : Nat) : Int).natAbs * y.2
          ≤ ((num * y.2 : Nat) - (y.1 * den : Nat) : Int).natAbs * r.2 ∧
      (((num * r.2 : Nat) - (r.1 * den : Nat) : Int).natAbs * y.2
          = ((num * y.2 : Nat) - (y.1 * den : Nat) : Int).natAbs * r.2 →
        y.1 * r.2 ≠ r.1 * y.2 → rneBits f num den % 2 = 0) := by
  obtain ⟨k, hk, hpow⟩ := bias_nat f heb
  have hnum' : num ≠ 0 := Nat.ne_of_gt hnum
  have hden' : den ≠ 0 := Nat.ne_of_gt hden
  rw [hk, show ((k : Int) + 1 - 1).toNat = k by omega] at hlo
  rw [hk, show ((k : Int) + 1 + 1).toNat = k + 2 by omega] at hhi
  -- the exponent is in the normal range
  have he0 := (le_floorLog2Ratio_iff num den 0 k hnum' hden').2 (by rwa [Nat.pow_zero, Nat.mul_one])
  have he1 := (floorLog2Ratio_lt_iff num den (k + 2) 0 hnum' hden').2 (by
    rw [Nat.pow_zero, Nat.mul_one]
    refine Nat.lt_of_mul_lt_mul_right (a := 2 ^ (f.fracBits + 2)) (Nat.lt_of_lt_of_le hhi ?_)
    rw [Nat.mul_right_comm]
    exact Nat.mul_le_mul_left _ (Nat.sub_le _ _))
  generalize he : floorLog2Ratio num den = e at he0 he1
  -- exponent field `E + 1`; all values are scaled by `2^(k + fracBits)`, which makes the smallest normal value `2^fracBits`
  obtain ⟨E, hE⟩ : ∃ E : Nat, e = (E : Int) - k := ⟨(e + k).toNat, by omega⟩
  obtain ⟨hm0, hm1, hr⟩ := rneBits_spec f num den E (k + f.fracBits) hnum' hden' e he (by omega) _ rfl
  obtain ⟨hXlo, -⟩ := floorLog2Ratio_spec num den (E + f.fracBits) (k + f.fracBits) hnum' hden' (by rw [he]; omega)
  rw [Nat.pow_add, ← Nat.mul_assoc] at hXlo
  replace hr := hr (by omega)
  rw [hk, show (e + ((k : Int) + 1) - 1).toNat = E by omega] at hr
  have hcarry : E = 2 * k + 1 → rhe (num * 2 ^ (k + f.fracBits)) (den * 2 ^ E) < 2 * 2 ^ f.fracBits :=
    fun h => by rw [h, ← Nat.pow_succ']; exact rhe_top num den f.fracBits k hden hhi
  rw [Nat.pow_succ'] at hm1
  generalize hmdef : rhe (num * 2 ^ (k + f.fracBits)) (den * 2 ^ E) = m at *
  have hlt : m + (E <<< f.fracBits) < (2 ^ f.expBits - 1) * 2 ^ f.fracBits := by
    rw [Nat.shiftLeft_eq, hpow]
    exact pattern_lt _ m E k (Nat.two_pow_pos _) hm1 (by omega) hcarry
  rw [← Nat.pow_succ'] at hm1
  obtain ⟨hsv, hpar⟩ := sv_add f hfb E m hm0 hm1
    (Nat.lt_of_lt_of_le hlt (Nat.mul_le_mul_right _ (Nat.sub_le _ _)))
  rw [← hr] at hsv hpar hlt
  refine ⟨hr ▸ Nat.le_trans hm0 (Nat.le_add_right _ _), hlt, fun b => ?_⟩
  obtain ⟨hrd, hrv⟩ := decode_sv f k hk (rneBits f num den)
  obtain ⟨hyd, hyv⟩ := decode_sv f k hk b
  obtain ⟨n1, n2⟩ := nearest_sv f den (num * 2 ^ (k + f.fracBits)) E m hden hmdef.symm hXlo b
  rw [hsv] at hrv
  obtain ⟨t1, t2, t3⟩ := dist_cmp num den _ _ _ _ _ _ _ (Nat.two_pow_pos _) hrd hyd hrv hyv
  exact ⟨t1 n1, fun heq hne => hpar ▸ n2 (t2 heq) (fun h => hne (t3 h))⟩

/-- `f64` and `f32` hold every Decimal of the domain in their normal range: `10^-18 ≤ num/den < 2^127`, and the two bounds of
    `rneBits_nearest` are `2^-126` (`2^-1022`) and just below `2^128` (`2^1024`) -/
theorem dec_normal_range {f : FloatFmt} (hf : f = FloatFmt.f64 ∨ f = FloatFmt.f32) {num den : Nat}
    (hnum0 : 0 < num) (hnum1 : num < 2 ^ 127) (hden0 : 0 < den) (hden1 : den ≤ 10 ^ 18) :
    den ≤ num * 2 ^ (f.bias - 1).toNat ∧
    num * 2 ^ (f.fracBits + 2) < den * (2 ^ (f.fracBits + 2) - 1) * 2 ^ (f.bias + 1).toNat := by
  obtain ⟨hb, hb'⟩ : (f.bias - 1).toNat ≥ 126 ∧ (f.bias + 1).toNat ≥ 128 := by rcases hf with rfl | rfl <;> decide
  constructor
  · have h1 : 2 ^ 126 ≤ 2 ^ (f.bias - 1).toNat := Nat.pow_le_pow_right (by decide) hb
    have h2 : 2 ^ (f.bias - 1).toNat ≤ num * 2 ^ (f.bias - 1).toNat := Nat.le_mul_of_pos_left _ hnum0
    have h3 : (10 : Nat) ^ 18 ≤ 2 ^ 126 := by decide
    omega
  · have h1 : 2 ^ 128 ≤ 2 ^ (f.bias + 1).toNat := Nat.pow_le_pow_right (by decide) hb'
    generalize 2 ^ (f.bias + 1).toNat = B at *
    have hQ : 2 ≤ 2 ^ (f.fracBits + 2) := by
      have : 2 ^ 1 ≤ 2 ^ (f.fracBits + 2) := Nat.pow_le_pow_right (by decide) (by omega)
      omega
    generalize 2 ^ (f.fracBits + 2) = Q at *
    -- num·Q < 2^127·Q ≤ (Q-1)·2^128 ≤ den·(Q-1)·B
    have e1 : num * Q < 2 ^ 127 * Q := Nat.mul_lt_mul_of_pos_right hnum1 (by omega)
    have e2 : (Q - 1) * 2 ^ 128 ≤ (Q - 1) * B := Nat.mul_le_mul_left _ h1
    have e3 : (Q - 1) * B ≤ den * ((Q - 1) * B) := Nat.le_mul_of_pos_left _ hden0
    have e4 : den * (Q - 1) * B = den * ((Q - 1) * B) := Nat.mul_assoc _ _ _
    have e5 : (Q - 1) * 2 ^ 128 = Q * 2 ^ 128 - 2 ^ 128 := by
      rw [Nat.sub_mul, Nat.one_mul]
    omega

/-- what `rneBits_nearest` asks of a format, and that the pattern of infinity is below the sign bit -/
theorem fmt_shape {f : FloatFmt} (hf : f = FloatFmt.f64 ∨ f = FloatFmt.f32) :
    1 ≤ f.fracBits ∧ 2 ≤ f.expBits ∧ (2 ^ f.expBits - 1) * 2 ^ f.fracBits ≤ 2 ^ (f.bits - 1) := by
  rcases hf with rfl | rfl <;> decide

/-- on that range the pattern stays below the sign bit -/
theorem rneBits_lt_sign {f : FloatFmt} (hf : f = FloatFmt.f64 ∨ f = FloatFmt.f32) {num den : Nat}
    (hnum0 : 0 < num) (hnum1 : num < 2 ^ 127) (hden0 : 0 < den) (hden1 : den ≤ 10 ^ 18) :
    rneBits f num den < 2 ^ (f.bits - 1) := by
  obtain ⟨hfb, heb, hle⟩ := fmt_shape hf
  obtain ⟨h1, h2⟩ := dec_normal_range hf hnum0 hnum1 hden0 hden1
  exact Nat.lt_of_lt_of_le (rneBits_nearest f hfb heb num den hnum0 hden0 h1 h2).2.1 hle

theorem spec_intoFloat_neg {f : FloatFmt} (hf : f = FloatFmt.f64 ∨ f = FloatFmt.f32)
    (a : Int) (p : Nat) (ha : a ≠ 0) (ha0 : I128_MIN < a) (ha1 : a ≤ I128_MAX) (hp : p ≤ 18) :
    Spec.intoFloat f (-a) p = Spec.intoFloat f a p ^^^ 2 ^ (f.bits - 1) := by
  have hlt : rneBits f a.natAbs (10 ^ p) < 2 ^ (f.bits - 1) :=
    rneBits_lt_sign hf (by omega) (by unfold I128_MIN I128_MAX at *; omega) (Nat.pow_pos (by decide))
      (Nat.pow_le_pow_right (by decide) hp)
  unfold Spec.intoFloat
  rw [if_neg ha, if_neg (show -a ≠ 0 by omega), Int.natAbs_neg]
  generalize rneBits f a.natAbs (10 ^ p) = r at hlt
  by_cases hs : a < 0
  · rw [if_pos hs, if_neg (show ¬ (-a < 0) by omega), Nat.zero_shiftLeft, Nat.or_zero, Nat.one_shiftLeft,
      or_two_pow_eq_xor hlt, xor_xor_cancel]
  · rw [if_neg hs, if_pos (show -a < 0 by omega), Nat.zero_shiftLeft, Nat.or_zero, Nat.one_shiftLeft]
    exact or_two_pow_eq_xor hlt

end Fpdec
