import Fpdec.Lemmas.TextBody

/-!
# `Display` with precision / width / flags against `Spec.displaySpec` (C11; with default flags C07's `to_string`)

Model: `display` in Fpdec/Model/Format.lean, mirroring /repo/src/format.rs; `Std.padIntegral` (Fpdec/Std.lean) is std's padding
rule and is shared by model and spec (assumed, not verified).  `Dom d` is the input domain (Lemmas/Dom.lean).
Every branch divides a magnitude by a power of ten (`floorPow10`) and prints the two parts (`fmt_parts`), both in
Lemmas/TextBody.lean.
-/

namespace Fpdec
open Fpdec.Model

/-- precision `min(pr, 18) = P ≥ p`: the magnitude scaled to `P` digits (any flags; whether or not the scaled coefficient fits an
    i128).  Three branches of `fmt` end up here: no fractional digits, `P = p` and `P > p`. -/
theorem display_ge (prof : Profile) (tm : Mode) (f : Std.FmtSpec) (d : Dec) (hd : Dom d) (pr P : Nat) (hf : f.prec = some pr)
    (hm : min pr 18 = P) (hP : d.nfrac ≤ P) :
    display prof tm f d =
      .ok (Std.padIntegral f (decide (d.coeff ≥ 0)) (Spec.renderAbs (d.coeff.natAbs * 10 ^ (P - d.nfrac)) P)) := by
  obtain ⟨h1, h2, h3⟩ := hd
  have hm' : Nat.min pr Gen.MAX_N_FRAC_DIGITS = P := hm
  have hP18 : P ≤ 18 := by omega
  have hn := tenPow_ok d.nfrac (by omega)
  have hfl := floorPow10 prof _ _ (natAbs_le_max ⟨h1, h2⟩) (show d.nfrac ≤ 38 by omega)
  have key := fmt_parts (fun t => Outcome.ok (Std.padIntegral f (decide (d.coeff ≥ 0)) t)) d.coeff.natAbs _ _ hP
  unfold display
  simp only [hf, hm', abs_ok prof ⟨h1, h2⟩, Outcome.bind_ok]
  by_cases h0 : d.nfrac = 0
  · rw [h0] at key
    simp only [Nat.pow_zero, Nat.div_one, Nat.mod_one, Nat.zero_mul] at key
    simp only [h0, if_true, Outcome.pure_eq, Outcome.bind_ok]
    exact key
  · rw [if_neg h0]
    rcases Nat.lt_or_eq_of_le hP with hgt | heq
    · rw [Nat.compare_eq_gt.mpr hgt]
      simp only [hn, hfl, tenPow_ok (P - d.nfrac) (by omega), scaleFrac_ok prof _ _ _ hP (show P ≤ 38 by omega),
        Outcome.bind_ok, Outcome.pure_eq, Int.toNat_natCast]
      exact key
    · subst heq
      rw [Nat.compare_eq_eq.mpr rfl]
      simp only [Nat.sub_self, Nat.pow_zero, Nat.mul_one] at key ⊢
      simp only [hn, hfl, Outcome.bind_ok, Outcome.pure_eq, Int.toNat_natCast]
      exact key

/-- precision `P < p`: the magnitude of the coefficient ROUNDED to `P` digits under the thread mode (first rounded, then the
    absolute value), the sign taken from `d` -/
theorem display_lt (prof : Profile) (tm : Mode) (f : Std.FmtSpec) (d : Dec) (hd : Dom d) (P : Nat) (hf : f.prec = some P)
    (hP : P < d.nfrac) :
    display prof tm f d = .ok (Std.padIntegral f (decide (d.coeff ≥ 0))
      (Spec.renderAbs (Spec.specRound tm d.coeff ((10 : Int) ^ (d.nfrac - P))).natAbs P)) := by
  obtain ⟨h1, h2, h3⟩ := hd
  have hm : Nat.min P Gen.MAX_N_FRAC_DIGITS = P := Nat.min_eq_left (by rw [max_nfrac]; omega)
  have hc := (specRound_dom tm d.coeff ((10 : Int) ^ (d.nfrac - P)) ⟨h1, h2⟩ (pow10_pos _)).1
  unfold display
  simp only [hf, hm, abs_ok prof ⟨h1, h2⟩, Outcome.bind_ok]
  rw [if_neg (by omega), Nat.compare_eq_lt.mpr hP]
  simp only [tenPow_ok (d.nfrac - P) (by omega), tenPow_ok P (by omega), Outcome.bind_ok,
    i128DivRounded_pos prof tm none _ _ ((fitsI128_iff _).mpr ⟨Int.le_of_lt h1, h2⟩) (pow10_pos _)
      (pow10_le_max (show d.nfrac - P ≤ 38 by omega)),
    Option.getD_none, abs_ok prof hc, floorPow10 prof _ _ (natAbs_le_max hc) (show P ≤ 38 by omega), Outcome.pure_eq,
    Int.toNat_natCast]
  exact fmt_parts_same (fun t => Outcome.ok (Std.padIntegral f (decide (d.coeff ≥ 0)) t)) _ P

theorem padIntegral_prec (f : Std.FmtSpec) (x : Option Nat) (b : Bool) (buf : List Nat) :
    Std.padIntegral { f with prec := x } b buf = Std.padIntegral f b buf := rfl

theorem display_none_eq (prof : Profile) (tm : Mode) (f : Std.FmtSpec) (d : Dec) (h : d.nfrac ≤ 18)
    (hf : f.prec = none) : display prof tm f d = display prof tm { f with prec := some d.nfrac } d := by
  have : Nat.min d.nfrac Gen.MAX_N_FRAC_DIGITS = d.nfrac := by rw [max_nfrac]; exact Nat.min_eq_left h
  unfold display
  simp only [hf, this, padIntegral_prec]

theorem displaySpec_none_eq (tm : Mode) (f : Std.FmtSpec) (a : Int) (p : Nat) (h : p ≤ 18)
    (hf : f.prec = none) : Spec.displaySpec tm f a p = Spec.displaySpec tm { f with prec := some p } a p := by
  have : min p 18 = p := Nat.min_eq_left h
  unfold Spec.displaySpec
  simp only [hf, this, padIntegral_prec]

theorem display_own (prof : Profile) (tm : Mode) (f : Std.FmtSpec) (d : Dec) (hd : Dom d) :
    display prof tm { f with prec := none } d =
      .ok (Std.padIntegral f (decide (d.coeff ≥ 0)) (Spec.renderAbs d.coeff.natAbs d.nfrac)) := by
  rw [display_none_eq prof tm _ d hd.2.2 rfl, display_ge prof tm _ d hd _ _ rfl (Nat.min_eq_left hd.2.2) (Nat.le_refl _)]
  simp only [Nat.sub_self, Nat.pow_zero, Nat.mul_one]
  rfl

theorem display_some (prof : Profile) (tm : Mode) (f : Std.FmtSpec) (d : Dec) (hd : Dom d) (pr : Nat)
    (hf : f.prec = some pr) :
    display prof tm f d = .ok (Spec.displaySpec tm f d.coeff d.nfrac) := by
  have h3 := hd.2.2
  unfold Spec.displaySpec
  simp only [hf]
  by_cases h : min pr 18 ≥ d.nfrac
  · rw [if_pos h, display_ge prof tm f d hd pr _ hf rfl h, Int.natAbs_mul, Int.natAbs_pow]
    rfl
  · have hpr : min pr 18 = pr := by omega
    rw [if_neg h, hpr]
    exact display_lt prof tm f d hd pr hf (by omega)

/-- `format!("{:…}", d)` with any flags / width / precision, every mode, every profile (C11); with default flags it is the
    canonical text (C07: `to_string()`) -/
theorem display_spec (prof : Profile) (tm : Mode) (f : Std.FmtSpec) (d : Dec) (hd : Dom d) :
    display prof tm f d = .ok (Spec.displaySpec tm f d.coeff d.nfrac) := by
  cases hf : f.prec with
  | some pr => exact display_some prof tm f d hd pr hf
  | none =>
    rw [display_none_eq prof tm f d hd.2.2 hf, displaySpec_none_eq tm f _ _ hd.2.2 hf]
    exact display_some prof tm _ d hd d.nfrac rfl

/-- with no width and no `+` the padding rule only prepends the sign -/
theorem pad_plain (P : Option Nat) (a : Int) (buf : List Nat) :
    Std.padIntegral { prec := P } (decide (a ≥ 0)) buf = (if a < 0 then [45] else []) ++ buf := by
  rw [← sign_eq]
  unfold Std.padIntegral
  by_cases h : a ≥ 0 <;> simp [h]

theorem pad_render (P : Option Nat) (a : Int) (p : Nat) :
    Std.padIntegral { prec := P } (decide (a ≥ 0)) (Spec.renderAbs a.natAbs p) = Spec.render a p := by
  rw [pad_plain, render_eq]

theorem display_default (prof : Profile) (tm : Mode) (d : Dec) (hd : Dom d) :
    display prof tm {} d = .ok (Spec.render d.coeff d.nfrac) :=
  (display_own prof tm {} d hd).trans (congrArg Outcome.ok (pad_render none d.coeff d.nfrac))

end Fpdec
