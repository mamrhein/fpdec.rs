import Fpdec.Lemmas.Rounding

/-!
# Rounding on top of a wide floor division

The 256-bit helpers divide magnitudes and fix the signs afterwards (`floorOfAbs`).  They return `Some (q, r)` with `q = ⌊N/d⌋` exactly
when the *truncated* quotient magnitude `|N| / |d|` fits an `i128`; `floor_fits_of_trunc` and `round_unfit_of_trunc` relate that test
to the representability of the rounded quotient.
-/

namespace Fpdec
open Fpdec.Model

theorem floorOfAbs (P : Nat) (y : Int) (hy0 : 0 < y) :
    ((P : Int) / y = ((P / y.natAbs : Nat) : Int) ∧ (P : Int) % y = ((P % y.natAbs : Nat) : Int)) ∧
    (P % y.natAbs = 0 → (-(P : Int)) / y = -((P / y.natAbs : Nat) : Int) ∧ (-(P : Int)) % y = 0) ∧
    (P % y.natAbs ≠ 0 → (-(P : Int)) / y = -((P / y.natAbs : Nat) : Int) - 1 ∧
        (-(P : Int)) % y = y - ((P % y.natAbs : Nat) : Int)) := by
  have hab : (y.natAbs : Int) = y := Int.natAbs_of_nonneg (Int.le_of_lt hy0)
  have hm := Nat.div_add_mod P y.natAbs
  have hl := Nat.mod_lt P (Int.natAbs_pos.mpr (Int.ne_of_gt hy0))
  generalize y.natAbs = Y at *
  generalize P / Y = q at *
  generalize P % Y = r at *
  have hm' : y * (q : Int) + (r : Int) = (P : Int) := by
    rw [← hab, ← hm]; push_cast; rfl
  refine ⟨(Int.ediv_emod_unique hy0).mpr (by omega), fun h0 => (Int.ediv_emod_unique hy0).mpr ?_,
    fun h0 => (Int.ediv_emod_unique hy0).mpr ?_⟩
  · rw [Int.mul_neg]; omega
  · rw [Int.mul_sub, Int.mul_neg, Int.mul_one]; omega

theorem floor_of_trunc (N d : Int) (hd : 0 < d) :
    N / d = (N.natAbs / d.natAbs : Nat) ∨ (N % d = 0 ∧ N / d = -((N.natAbs / d.natAbs : Nat) : Int)) ∨
      N / d = -((N.natAbs / d.natAbs : Nat) : Int) - 1 := by
  obtain ⟨P, rfl | rfl⟩ := Int.eq_nat_or_neg N
  · rw [Int.natAbs_natCast]
    exact .inl (floorOfAbs P d hd).1.1
  · rw [Int.natAbs_neg, Int.natAbs_natCast]
    by_cases h0 : P % d.natAbs = 0
    · exact .inr (.inl ((floorOfAbs P d hd).2.1 h0).symm)
    · exact .inr (.inr ((floorOfAbs P d hd).2.2 h0).1)

theorem floor_fits_of_trunc (N d : Int) (hd : 0 < d) (h : (N.natAbs / d.natAbs : Nat) ≤ I128_MAX.toNat) :
    fitsI128 (N / d) = true := by
  have := floor_of_trunc N d hd
  rw [Int.le_toNat (by decide)] at h
  rw [fitsI128_iff]
  unfold I128_MIN I128_MAX at *
  generalize N.natAbs / d.natAbs = Q at *
  omega

theorem round_unfit_of_trunc (m : Mode) (N d : Int) (hd : 0 < d) (h : ¬ (N.natAbs / d.natAbs : Nat) ≤ I128_MAX.toNat) :
    Spec.specRound m N d ≤ I128_MIN ∨ I128_MAX < Spec.specRound m N d := by
  obtain ⟨r1, r2, r3⟩ := specRound_range m N d
  rw [Int.le_toNat (by decide), Int.not_le] at h
  unfold I128_MIN I128_MAX at *
  rcases floor_of_trunc N d hd with e | ⟨e0, e⟩ | e
  · right; omega
  · left; rw [r3 e0]; omega
  · left; omega

/-- closing step of the wide branches: `Some`/`None` of the wide division followed by `round_quot` conforms to the spec's `valFit` of
    the rounded exact quotient; `f`, `D`: the form in which the caller passes remainder and divisor to `round_quot` -/
theorem wide_tail_core (tm : Mode) (N d : Int) (n : Nat) (f : Int → Nat) (D : Nat) (hd : 0 < d) (hR : N % d = f (N % d)) (hD : d = D)
    (hDu : D ≤ 2 ^ 127) :
    Spec.allowedChecked (Spec.valFit (Spec.specRound tm N d) n)
      (outOptPair (.ok (
        (if (N.natAbs / d.natAbs : Nat) ≤ I128_MAX.toNat then some (N / d, N % d) else none).bind fun qr =>
          (roundQuot tm qr.1 (f qr.2) D none).map fun c => (⟨c, n⟩ : Dec)))) = true := by
  by_cases ht : (N.natAbs / d.natAbs : Nat) ≤ I128_MAX.toNat
  · rw [if_pos ht, Option.bind_some, roundQuot_getD, Option.getD_none,
      roundQuot_eq tm tm hd rfl hR hD hDu (floor_fits_of_trunc N d hd ht)]
    exact valFit_checked _ _
  · rw [if_neg ht, Option.bind_none]
    -- not an i128, or `i128::MIN`, where `valFit` leaves `None` open
    have := round_unfit_of_trunc tm N d hd ht
    cases hf : fitsI128 (Spec.specRound tm N d)
    · exact valFit_none _ _ hf
    · rw [valFit_eq, if_pos (by rw [fitsI128_iff] at hf; omega)]
      rfl

/-- remainder and divisor as casts (`rem as u128`, `divisor as u128`: the form of `i128_mul_div_ten_pow_rounded`) -/
theorem wide_tail (tm : Mode) (N d : Int) (n : Nat) (hd : 0 < d) (hdu : d ≤ I128_MAX) :
    Spec.allowedChecked (Spec.valFit (Spec.specRound tm N d) n)
      (outOptPair (.ok (
        (if (N.natAbs / d.natAbs : Nat) ≤ I128_MAX.toNat then some (N / d, N % d) else none).bind fun qr =>
          (roundQuot tm qr.1 (IntTy.u128.cast qr.2).toNat (IntTy.u128.cast d).toNat none).map fun c => (⟨c, n⟩ : Dec)))) = true := by
  have h1 := Int.emod_nonneg N (Int.ne_of_gt hd)
  have h2 := Int.emod_lt_of_pos N hd
  have hc := cast_u128_nonneg (Int.le_of_lt hd) hdu
  exact wide_tail_core tm N d n (fun r => (IntTy.u128.cast r).toNat) _ hd (by rw [cast_u128_nonneg h1 (by omega)]; omega)
    (by rw [hc]; omega) (by rw [hc]; unfold I128_MAX at hdu; omega)

/-- remainder and divisor as magnitudes (`rem.unsigned_abs()`, `divisor.unsigned_abs()`: the form of `i128_shifted_div_rounded` after
    the D13 repair); the divisor may be `2^127 = |i128::MIN|` -/
theorem wide_tail_abs (tm : Mode) (N d : Int) (n : Nat) (hd : 0 < d) (hdu : d ≤ I128_MAX + 1) :
    Spec.allowedChecked (Spec.valFit (Spec.specRound tm N d) n)
      (outOptPair (.ok (
        (if (N.natAbs / d.natAbs : Nat) ≤ I128_MAX.toNat then some (N / d, N % d) else none).bind fun qr =>
          (roundQuot tm qr.1 qr.2.natAbs d.natAbs none).map fun c => (⟨c, n⟩ : Dec)))) = true := by
  have h1 := Int.emod_nonneg N (Int.ne_of_gt hd)
  exact wide_tail_core tm N d n Int.natAbs _ hd (by omega) (by omega) (by unfold I128_MAX at hdu; omega)

end Fpdec
