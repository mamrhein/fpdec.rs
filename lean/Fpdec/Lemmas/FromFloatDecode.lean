import Fpdec.Lemmas.Bits
import Fpdec.Lemmas.IntTy
import Fpdec.Spec.Float
import Fpdec.Model.Float

/-!
# Bit level: the fields of a pattern, `f64_decode` / `f32_decode` and `Spec.decodeBits` in terms of them

A pattern of the format `f` is `(s · 2^eb + be) · 2^fb + frac` with `fb = f.fracBits`, `eb = f.expBits`; everything here is
stated over `fb` and `eb`; the two formats come in at the end, through `decodeConsts_eq` and in `floatDecode_finite`.
-/

namespace Fpdec
open Fpdec.Model

theorem bits_sub_one (f : Spec.FloatFmt) : f.bits - 1 = f.fracBits + f.expBits := by
  unfold Spec.FloatFmt.bits; omega

/-- the fraction and the biased exponent do not see the sign bit -/
theorem low_frac (fb eb x : Nat) : x % 2 ^ (fb + eb) % 2 ^ fb = x % 2 ^ fb :=
  Nat.mod_mod_of_dvd _ (Nat.pow_dvd_pow 2 (Nat.le_add_right fb eb))

theorem low_exp (fb eb x : Nat) : x % 2 ^ (fb + eb) / 2 ^ fb % 2 ^ eb = x / 2 ^ fb % 2 ^ eb := by
  rw [Nat.pow_add, Nat.mod_mul_right_div_self, Nat.mod_mod]

theorem sign_lt_two {f : Spec.FloatFmt} {bits : Nat} (hb : bits < 2 ^ f.bits) :
    bits / 2 ^ (f.fracBits + f.expBits) < 2 :=
  Nat.div_lt_of_lt_mul (by
    rw [← Nat.pow_succ, show (f.fracBits + f.expBits).succ = f.bits by unfold Spec.FloatFmt.bits; omega]; exact hb)

theorem decodeBits_low (f : Spec.FloatFmt) (bits : Nat) :
    Spec.decodeBits f (bits % 2 ^ (f.bits - 1)) = Spec.decodeBits f bits := by
  unfold Spec.decodeBits
  simp only [Nat.shiftRight_eq_div_pow, bits_sub_one, low_frac, low_exp]

theorem decodeBits_den_pos (f : Spec.FloatFmt) (bits : Nat) : 0 < (Spec.decodeBits f bits).2 := by
  unfold Spec.decodeBits
  dsimp only
  split
  · exact Nat.two_pow_pos _
  · split
    · exact Nat.one_pos
    · exact Nat.two_pow_pos _

/-- flipping the sign bit (`b'` is the flipped pattern) keeps the low `bits - 1` bits, hence fraction and exponent field, and inverts
    the sign bit: any format -/
theorem xor_sign_fields (f : Spec.FloatFmt) (bits : Nat) (hb : bits < 2 ^ f.bits) {b' : Nat} (h : b' = bits ^^^ 2 ^ (f.bits - 1)) :
    b' < 2 ^ f.bits ∧ (b' >>> f.fracBits) % 2 ^ f.expBits = (bits >>> f.fracBits) % 2 ^ f.expBits ∧
    b' % 2 ^ f.fracBits = bits % 2 ^ f.fracBits ∧ b' % 2 ^ (f.bits - 1) = bits % 2 ^ (f.bits - 1) ∧
    ((b' >>> (f.bits - 1)) % 2 = 1 ↔ ¬ (bits >>> (f.bits - 1)) % 2 = 1) := by
  have hlow : b' % 2 ^ (f.bits - 1) = bits % 2 ^ (f.bits - 1) := by
    rw [h, Nat.xor_mod_two_pow, Nat.mod_self, Nat.xor_zero]
  have hk := bits_sub_one f
  refine ⟨?_, ?_, ?_, hlow, ?_⟩
  · exact h ▸ Nat.xor_lt_two_pow hb (Nat.pow_lt_pow_right (by decide) (by unfold Spec.FloatFmt.bits; omega))
  · rw [hk] at hlow
    simp only [Nat.shiftRight_eq_div_pow]
    rw [← low_exp, hlow, low_exp]
  · rw [hk] at hlow
    rw [← low_frac _ f.expBits, hlow, low_frac]
  · simp only [h, Nat.shiftRight_eq_div_pow]
    rw [Nat.xor_div_two_pow, Nat.div_self (Nat.two_pow_pos _), Nat.mod_two_eq_one_iff_testBit_zero, Nat.testBit_xor,
      Nat.mod_two_eq_one_iff_testBit_zero]
    simp

/-- the array-literal `match` of `floatDecode` on an explicit array (Lean generates no equations for this matcher, so neither
    `simp` nor `split` reduces it; reducing it by `rfl` in place makes the kernel evaluate the `assert` below it) -/
theorem decode_match {motive : Array Nat → Sort _} (a b c d e f g h : Nat)
    (h1 : (a b c d e f g h : Nat) → motive #[a, b, c, d, e, f, g, h]) (h2 : (x : Array Nat) → motive x) :
    floatDecode.match_3 motive #[a, b, c, d, e, f, g, h] h1 h2 = h1 a b c d e f g h := rfl

theorem bias_nonneg (f : Spec.FloatFmt) : 0 ≤ f.bias := by
  have := pow2_pos (f.expBits - 1)
  unfold Spec.FloatFmt.bias; omega

/-- the constants read from the source are those of the IEEE format: shifts, masks and bias in terms of `fracBits`, `expBits` -/
theorem decodeConsts_eq {f : Spec.FloatFmt} (hf : f = .f64 ∨ f = .f32) :
    decodeConsts f = #[f.fracBits, 2 ^ f.expBits - 1, 2 ^ f.expBits - 1, 2 ^ f.fracBits - 1, 2 ^ f.fracBits,
      f.bias.toNat, f.fracBits, f.fracBits + f.expBits] := by
  rcases hf with rfl | rfl <;> decide

/-- `f64_decode` / `f32_decode` in terms of the fields: any format with at most 15 exponent bits (`biased_exp` is an `i16`)
    whose constants are as in `decodeConsts_eq` -/
theorem floatDecode_fields {f : Spec.FloatFmt}
    (hc : decodeConsts f = #[f.fracBits, 2 ^ f.expBits - 1, 2 ^ f.expBits - 1, 2 ^ f.fracBits - 1, 2 ^ f.fracBits,
      f.bias.toNat, f.fracBits, f.fracBits + f.expBits])
    (heb : f.expBits ≤ 15) (bits : Nat) (hb : bits < 2 ^ f.bits) :
    floatDecode f bits =
      if bits / 2 ^ f.fracBits % 2 ^ f.expBits = 2 ^ f.expBits - 1 then .panic .assert
      else if bits / 2 ^ f.fracBits % 2 ^ f.expBits = 0 then .ok (0, 0, 0)
      else .ok (bits % 2 ^ f.fracBits + 2 ^ f.fracBits,
                ((bits / 2 ^ f.fracBits % 2 ^ f.expBits : Nat) : Int) - f.bias - f.fracBits,
                1 - 2 * ((bits / 2 ^ (f.fracBits + f.expBits) : Nat) : Int)) := by
  have hE : 2 ^ f.expBits ≤ 32768 := Nat.pow_le_pow_right (by decide) heb
  have hbe : bits / 2 ^ f.fracBits % 2 ^ f.expBits < 2 ^ f.expBits := Nat.mod_lt _ (Nat.two_pow_pos _)
  have hs := sign_lt_two hb
  have e1 : IntTy.i16.cast ((bits >>> f.fracBits &&& (2 ^ f.expBits - 1) : Nat) : Int)
      = ((bits / 2 ^ f.fracBits % 2 ^ f.expBits : Nat) : Int) := by
    rw [Nat.and_two_pow_sub_one_eq_mod, Nat.shiftRight_eq_div_pow]; exact i16_cast_id (by omega) (by omega)
  have e2 : IntTy.i8.cast (((((bits >>> (f.fracBits + f.expBits)) % 256) <<< 1 : Nat) : Int) % 256)
      = 2 * ((bits / 2 ^ (f.fracBits + f.expBits) : Nat) : Int) := by
    rw [Nat.shiftRight_eq_div_pow, Nat.shiftLeft_eq, Nat.pow_one, Nat.mod_eq_of_lt (by omega),
      i8_cast_id (by omega) (by omega)]
    omega
  have e3 : bits &&& (2 ^ f.fracBits - 1) ||| 2 ^ f.fracBits = bits % 2 ^ f.fracBits + 2 ^ f.fracBits := by
    rw [Nat.and_two_pow_sub_one_eq_mod, Nat.or_comm, Nat.add_comm]
    have := Nat.two_pow_add_eq_or_of_lt (Nat.mod_lt bits (Nat.two_pow_pos f.fracBits)) 1
    rw [Nat.mul_one] at this; exact this.symm
  have hnan : ((bits / 2 ^ f.fracBits % 2 ^ f.expBits : Nat) : Int) = ((2 ^ f.expBits - 1 : Nat) : Int) ↔
      bits / 2 ^ f.fracBits % 2 ^ f.expBits = 2 ^ f.expBits - 1 := Int.ofNat_inj
  have h0 : ((bits / 2 ^ f.fracBits % 2 ^ f.expBits : Nat) : Int) = 0 ↔ bits / 2 ^ f.fracBits % 2 ^ f.expBits = 0 :=
    Int.natCast_eq_zero
  unfold floatDecode
  -- the cast goes before the `let`s do: with it in place the kernel would evaluate `assert (… i16.cast …)` symbolically
  rw [hc, decode_match, e1]
  simp only []
  rw [e2, e3, Int.toNat_of_nonneg (bias_nonneg f)]
  simp only [assert, ne_eq, hnan, h0, decide_not, Int.natCast_one]
  by_cases hn : bits / 2 ^ f.fracBits % 2 ^ f.expBits = 2 ^ f.expBits - 1
  · simp only [hn, decide_true, Bool.not_true, Bool.false_eq_true, if_false, if_true]
  · simp only [hn, decide_false, Bool.not_false, if_true, if_false]

/-- a finite pattern decodes, to an exponent far inside `i16` -/
theorem floatDecode_finite {f : Spec.FloatFmt} (hf : f = .f64 ∨ f = .f32) (bits : Nat) (hb : bits < 2 ^ f.bits)
    (hbe : ¬ bits / 2 ^ f.fracBits % 2 ^ f.expBits = 2 ^ f.expBits - 1) :
    ∃ s e sg, floatDecode f bits = .ok (s, e, sg) ∧ e < 32768 := by
  have hE : 2 ^ f.expBits ≤ 2 ^ 11 := Nat.pow_le_pow_right (by decide) (by rcases hf with rfl | rfl <;> decide)
  have := bias_nonneg f
  rw [floatDecode_fields (decodeConsts_eq hf) (by rcases hf with rfl | rfl <;> decide) bits hb, if_neg hbe]
  split
  · exact ⟨_, _, _, rfl, by decide⟩
  · exact ⟨_, _, _, rfl, by omega⟩

end Fpdec
