import Fpdec.Lemmas.FromFloatNorm
import Fpdec.Lemmas.UnaryLog
import Fpdec.Lemmas.IntTy
import Fpdec.Lemmas.TruncDiv

/-!
# `approx_rational`: the digit loop and the final half-even step
-/

namespace Fpdec
open Fpdec.Model

theorem pow10_17 : (10 : Int) ^ 17 = 100000000000000000 := by decide
theorem pow10_18 : (10 : Int) ^ 18 = 1000000000000000000 := by decide

theorem scaled_le (a : Int) {j m : Nat} (ha : 0 < a) (hj : j ≤ m) : 0 < a * 10 ^ j ∧ a * 10 ^ j ≤ a * 10 ^ m :=
  ⟨Int.mul_pos ha (pow10_pos j), Int.mul_le_mul_of_nonneg_left (pow10_mono hj) (Int.le_of_lt ha)⟩

theorem digit_step (X d : Int) (hd : 0 < d) :
    X / d * 10 + (X % d * 10) / d = X * 10 / d ∧ (X % d * 10) % d = X * 10 % d := by
  have h : X * 10 = X % d * 10 + d * (X / d * 10) := by
    have := Int.mul_ediv_add_emod X d
    calc X * 10 = (d * (X / d) + X % d) * 10 := by rw [this]
      _ = X % d * 10 + d * (X / d * 10) := by ring
  rw [h, Int.add_mul_ediv_left _ _ (Int.ne_of_gt hd), Int.add_mul_emod_self_left]
  constructor <;> omega

/-- `magn + k ≤ 37` keeps the loop's magnitude guard (`magn < 37`) true throughout, so the loop ends only when the remainder vanishes
    or 18 digits are produced. -/
theorem approxLoop_spec (prof : Profile) (d a : Int) (hd : 2 ≤ d) (ha : 0 < a) (ha2 : a < 9007199254740992) :
    ∀ (k j magn : Nat), j + k = 18 → magn + k ≤ 37 →
    ∃ j', j' ≤ 18 ∧ (j' = 18 ∨ a * 10 ^ j' % d = 0) ∧
      approxLoop prof d k (a * 10 ^ j / d) (a * 10 ^ j % d) j magn
        = .ok (a * 10 ^ j' / d, a * 10 ^ j' % d, j') := by
  intro k
  induction k with
  | zero =>
    intro j magn hj _
    have : j = 18 := by omega
    subst this
    exact ⟨18, Nat.le_refl _, Or.inl rfl, by unfold approxLoop; rfl⟩
  | succ k ih =>
    intro j magn hj hm
    by_cases hr : a * 10 ^ j % d = 0
    · refine ⟨j, by omega, Or.inr hr, ?_⟩
      unfold approxLoop
      simp [hr]
    · obtain ⟨j', h2, h3, h4⟩ := ih (j + 1) (magn + 1) (by omega) (by omega)
      refine ⟨j', h2, h3, ?_⟩
      rw [← h4]
      have hd0 : 0 < d := by omega
      obtain ⟨hX0, hX1⟩ := scaled_le a ha (show j ≤ 17 by omega)
      rw [pow10_17] at hX1
      have hstep := digit_step (a * 10 ^ j) d hd0
      have hpow : a * 10 ^ (j + 1) = a * 10 ^ j * 10 := by rw [Int.pow_succ, Int.mul_assoc]
      rw [hpow]
      generalize a * 10 ^ j = X at *
      have hr0 := Int.emod_nonneg X (Int.ne_of_gt hd0)
      have hr1 := emod_le_of_nonneg X d (Int.le_of_lt hX0) hd0
      obtain ⟨hq0, hq1⟩ := (ediv_bounds X hd0).1 (Int.le_of_lt hX0)
      obtain ⟨hQ0, hQ1⟩ := (ediv_bounds (X * 10) hd0).1 (by omega)
      have f1 : fitsI128 (X % d * 10) = true := by rw [fitsI128_iff]; unfold I128_MIN I128_MAX; omega
      have f2 : fitsI128 (X / d * 10) = true := by rw [fitsI128_iff]; unfold I128_MIN I128_MAX; omega
      have f3 : fitsI128 (X / d * 10 + (X % d * 10) / d) = true := by
        rw [hstep.1, fitsI128_iff]; unfold I128_MIN I128_MAX; omega
      have hcond : X % d ≠ 0 ∧ magn < Gen.FROM_FLT_MAGN_I128_MAX - 1 := by
        refine ⟨hr, ?_⟩
        have : Gen.FROM_FLT_MAGN_I128_MAX = 38 := rfl
        omega
      have hu8 : plainU8 prof ((magn : Int) + 1) = .ok (magn + 1) := by
        rw [plainU8_ok prof (by omega) (by omega)]
        congr 1
      conv => lhs; unfold approxLoop
      simp only [hcond, plainI128_ok prof f1, Outcome.bind_ok, divI128_pos _ _ hd0, remI128_pos _ _ hd0,
        hu8, plainI128_ok prof f2, Int.tdiv_eq_ediv_of_nonneg (show 0 ≤ X % d * 10 by omega),
        Int.tmod_eq_emod_of_nonneg (show 0 ≤ X % d * 10 by omega), plainI128_ok prof f3]
      rw [hstep.1, hstep.2, if_pos ⟨hr, trivial⟩]

theorem approxLoop_nfrac (prof : Profile) (d : Int) : ∀ (k : Nat) (coeff rem : Int) (n magn : Nat),
    Post (approxLoop prof d k coeff rem n magn) fun s => s.2.2 ≤ n + k
  | 0, _, _, _, _ => .ok (Nat.le_refl _)
  | k + 1, _, _, n, _ => by
    unfold approxLoop
    exact .ite (fun _ => .bind' fun _ => .bind' fun _ => .bind' fun r => .bind' fun m => .bind' fun _ => .bind' fun c =>
      (approxLoop_nfrac prof d k c r (n + 1) m).mono fun _ h => by omega) fun _ => .ok (Nat.le_add_right _ _)

theorem heven_eq (X d : Int) (hd : 0 < d) :
    Spec.specRound .heven X d =
      if 2 * (X % d) > d ∨ (2 * (X % d) = d ∧ (X / d) % 2 = 1) then X / d + 1 else X / d := by
  unfold Spec.specRound
  dsimp only
  split
  · rw [if_neg (by omega)]
  · split
    · rw [if_pos (.inl ‹_›)]
    · split
      · rw [if_neg (by omega)]
      · split
        · rw [if_neg (by omega)]
        · rw [if_pos (by omega)]

/-- half-even rounding of `n/d` is within a half of it, and even when exactly a half away -/
theorem heven_near (n d : Int) (hd : 0 < d) :
    -d ≤ 2 * (Spec.specRound .heven n d * d - n) ∧ 2 * (Spec.specRound .heven n d * d - n) ≤ d ∧
    (2 * (Spec.specRound .heven n d * d - n) = d ∨ 2 * (Spec.specRound .heven n d * d - n) = -d →
      Spec.specRound .heven n d % 2 = 0) := by
  have h1 := Int.emod_nonneg n (Int.ne_of_gt hd)
  have h2 := Int.emod_lt_of_pos n hd
  have h3 := Int.mul_ediv_add_emod n d
  rw [heven_eq n d hd]
  split
  · rw [Int.add_mul, Int.one_mul, Int.mul_comm (n / d) d]; omega
  · rw [Int.mul_comm (n / d) d]; omega

/-- the only such integer: two of them differ by at most one, and by one only if both are a half away -/
theorem heven_unique (n d q : Int) (hd : 0 < d) (h1 : -d ≤ 2 * (q * d - n)) (h2 : 2 * (q * d - n) ≤ d)
    (h3 : 2 * (q * d - n) = d ∨ 2 * (q * d - n) = -d → q % 2 = 0) : Spec.specRound .heven n d = q := by
  obtain ⟨g1, g2, g3⟩ := heven_near n d hd
  generalize Spec.specRound .heven n d = p at g1 g2 g3
  have hk : (p - q) * d = (p * d - n) - (q * d - n) := by rw [Int.sub_mul]; omega
  generalize p * d - n = a at *
  generalize q * d - n = b at *
  have u : p - q ≤ 1 := Int.le_of_mul_le_mul_right (a := d) (by omega) hd
  have l : -1 ≤ p - q := Int.le_of_mul_le_mul_right (a := d) (by omega) hd
  have : p - q = 1 ∨ p - q = 0 ∨ p - q = -1 := by omega
  rcases this with h | h | h <;> rw [h] at hk <;> omega

theorem heven_neg (X d : Int) (hd : 0 < d) : Spec.specRound .heven (-X) d = - Spec.specRound .heven X d := by
  obtain ⟨g1, g2, g3⟩ := heven_near X d hd
  apply heven_unique _ _ _ hd <;> rw [Int.neg_mul] <;> omega

theorem heven_tiny (N d : Int) (h1 : 2 * N < d) (h2 : -d < 2 * N) : Spec.specRound .heven N d = 0 := by
  apply heven_unique _ _ _ (by omega) <;> rw [Int.zero_mul] <;> omega

end Fpdec
