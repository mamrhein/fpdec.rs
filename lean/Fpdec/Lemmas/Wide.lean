import Fpdec.Lemmas.WideRound
import Fpdec.Lemmas.WideSpecial
import Mathlib.Tactic.Ring

/-!
# C16 — the wide (256-bit) intermediates

`u128MulU128`, `u256IdivU64`, `corrCond`, `corrLoop`, `u256IdivU128Special`, `u256IdivU128`, `i128ShiftedDivModFloor`,
`i256DivModFloor` are defined in Fpdec/Model/Core.lean and mirror fpdec-core/src/lib.rs of /repo function by function.
Every `plainU128 prof …` / `plainU8 prof …` / `debugAssert prof …` inside them is shown never to overflow / fail: that is why the
result is `.ok …` for EVERY profile `prof`.
-/

namespace Fpdec
open Fpdec.Model Fpdec.Wide

/-- `u128_mul_u128`: exact 256-bit product; every intermediate sum is a digit product plus at most two digits -/
theorem u128MulU128_eq (prof : Profile) (x y : Nat) (hx : x < U128_MOD) (hy : y < U128_MOD) :
    u128MulU128 prof x y = .ok (x * y / U128_MOD, x * y % U128_MOD) := by
  unfold u128MulU128
  simp only [u128Hi_eq, u128Lo_eq, shl64_eq, ← Int.natCast_mul, ← Int.natCast_add]
  have hxd := Nat.div_add_mod x U64_MOD
  have hyd := Nat.div_add_mod y U64_MOD
  have hxl := lo_lt (t := x)
  have hyl := lo_lt (t := y)
  have hxh := hi_lt hx
  have hyh := hi_lt hy
  generalize x / U64_MOD = xh at *
  generalize x % U64_MOD = xl at *
  generalize y / U64_MOD = yh at *
  generalize y % U64_MOD = yl at *
  have h1 := mul_lt_U128 hxl hyl
  have h2 := mul_lt_U128 hxl hyh
  have h3 := mul_add_lt_U128 hxl hyh (hi_lt h1)
  have h4 := mul_lt_U128 hxh hyl
  have h5 := mul_add_lt_U128 hxh hyl (lo_lt (t := xl * yh + xl * yl / U64_MOD))
  have h6 := lt_base2 (lo_lt (t := xh * yl + (xl * yh + xl * yl / U64_MOD) % U64_MOD)) (lo_lt (t := xl * yl))
  rw [Nat.add_comm] at h6
  have h7 := mul_lt_U128 hxh hyh
  have h8 := mul_add_lt_U128 hxh hyh (hi_lt h5)
  have h9 := mac_lt_U128 hxh hyh (hi_lt h5) (hi_lt h3)
  rw [Nat.add_comm] at h9
  have e : _ = x * y := (mul_carries U64_MOD (xl * yl) (xl * yh) (xh * yl) (xh * yh)).trans (by rw [← hxd, ← hyd]; ring)
  rw [← U128_eq] at e
  rw [plainU128_nat prof h1, Outcome.bind_ok, plainU128_nat prof h2, Outcome.bind_ok,
    plainU128_nat prof h3, Outcome.bind_ok, plainU128_nat prof h4, Outcome.bind_ok,
    plainU128_nat prof h5, Outcome.bind_ok, wrapU128_eq,
    Nat.mod_eq_of_lt (Nat.lt_of_le_of_lt (Nat.le_add_left _ _) h6), plainU128_nat prof h6, Outcome.bind_ok,
    plainU128_nat prof h7, Outcome.bind_ok, plainU128_nat prof h8, Outcome.bind_ok,
    plainU128_nat prof h9, Outcome.bind_ok, Outcome.pure_eq, (words_eq e h6).1, (words_eq e h6).2]

/-- `u256_idiv_u64`: 256 by 64 bit long division, three `div_step`s -/
theorem u256IdivU64_eq (prof : Profile) (xh xl y : Nat) (hxh : xh < U128_MOD) (hxl : xl < U128_MOD)
    (hy0 : 0 < y) (hy : y < U64_MOD) :
    u256IdivU64 prof xh xl y =
      .ok ((xh * U128_MOD + xl) / y / U128_MOD, (xh * U128_MOD + xl) / y % U128_MOD, (xh * U128_MOD + xl) % y) := by
  unfold u256IdivU64
  by_cases h1 : y = 1
  · rw [if_pos h1, h1, Nat.div_one, Nat.mod_one, (words_eq rfl hxl).1, (words_eq rfl hxl).2]
    rfl
  · simp only [h1, Nat.ne_of_gt hy0, if_false, u128Hi_eq, u128Lo_eq, shl64_eq, ← Int.natCast_ediv,
      ← Int.natCast_add, wrapU128_eq]
    have ry : ∀ {t : Nat}, t % y < U64_MOD := Nat.lt_trans (Nat.mod_lt _ hy0) hy
    have dg : ∀ {t d : Nat}, d < U64_MOD → (t % y * U64_MOD + d) / y < U64_MOD :=
      fun hd => digit_lt_base (Nat.mod_lt _ hy0) hd
    rw [plainU128_hiLo prof ry lo_lt, Outcome.bind_ok,
      plainU128_hiLo prof (Nat.lt_of_le_of_lt (Nat.div_le_self _ _) (hi_lt hxh)) (dg lo_lt), Outcome.bind_ok,
      plainU128_hiLo prof ry (hi_lt hxl), Outcome.bind_ok, plainU128_hiLo prof ry lo_lt, Outcome.bind_ok,
      plainU128_hiLo prof (dg (hi_lt hxl)) (dg lo_lt), Outcome.bind_ok, Outcome.pure_eq]
    -- the same steps on the quotient `(xh·2^128 + xl) / y`
    have s1 := div_step U64_MOD y (xh / U64_MOD) (xh % U64_MOD) hy0
    rw [Nat.div_add_mod'] at s1
    have s2 := div_step U64_MOD y xh (xl / U64_MOD) hy0
    have s3 := div_step U64_MOD y (xh * U64_MOD + xl / U64_MOD) (xl % U64_MOD) hy0
    have hX : (xh * U64_MOD + xl / U64_MOD) * U64_MOD + xl % U64_MOD = xh * U128_MOD + xl := by
      rw [Nat.add_mul, Nat.mul_assoc, ← U128_eq, Nat.add_assoc, Nat.div_add_mod']
    rw [hX, s2.1, s2.2, Nat.add_mul, Nat.mul_assoc, ← U128_eq, Nat.add_assoc] at s3
    obtain ⟨e1, e2⟩ := words_eq s3.1.symm (lt_base2 (dg (hi_lt hxl)) (dg lo_lt))
    rw [← s1.1, ← s1.2, e1, e2, s3.2]

theorem u256IdivU128_eq (prof : Profile) (xh xl y : Nat) (hxh : xh < U128_MOD) (hxl : xl < U128_MOD)
    (hy0 : 0 < y) (hy : y < U128_MOD) :
    u256IdivU128 prof xh xl y =
      .ok ((xh * U128_MOD + xl) / y / U128_MOD, (xh * U128_MOD + xl) / y % U128_MOD, (xh * U128_MOD + xl) % y) := by
  unfold u256IdivU128
  simp only [u128Hi_eq, u128Lo_eq]
  by_cases hhi : y / U64_MOD = 0
  · have hylt : y < U64_MOD := (Nat.div_eq_zero_iff_lt U64_MOD_pos).mp hhi
    rw [if_pos hhi, Nat.mod_mod, Nat.mod_eq_of_lt hylt]
    exact u256IdivU64_eq prof xh xl y hxh hxl hy0 hylt
  · -- one `div_step` in base `2^128` reduces to the case `xh < y`
    have s := div_step U128_MOD y xh xl hy0
    obtain ⟨e1, e2⟩ := words_eq s.1.symm (digit_lt_base (Nat.mod_lt xh hy0) hxl)
    rw [if_neg hhi, e1, e2, s.2]
    by_cases hlt : xh < y
    · rw [if_pos hlt, u256IdivU128Special_eq prof xh xl y hy hlt hxl, Nat.div_eq_of_lt hlt, Nat.mod_eq_of_lt hlt]
    · rw [if_neg hlt, u256IdivU128Special_eq prof (xh % y) xl y hy (Nat.mod_lt xh hy0) hxl]
      rfl

/-- the overflow test on the 256-bit quotient `qh·2^128 + ql = Q`: `None` exactly when `Q > i128::MAX`, else `ql = Q` -/
theorem wideQuot_ite {β : Type} {qh ql Q : Nat} (hQ : qh * U128_MOD + ql = Q) (t : Outcome (Option β)) (v : β)
    (ht : Q ≤ I128_MAX.toNat → ql = Q → t = .ok (some v)) :
    (if qh ≠ 0 ∨ (ql : Int) > I128_MAX then (pure none : Outcome (Option β)) else t) =
      .ok (if Q ≤ I128_MAX.toNat then some v else none) := by
  have h : ((qh ≠ 0 ∨ (ql : Int) > I128_MAX) ↔ ¬ Q ≤ I128_MAX.toNat) ∧ (Q ≤ I128_MAX.toNat → ql = Q) := by
    unfold I128_MAX U128_MOD at *; omega
  by_cases hc : Q ≤ I128_MAX.toNat
  · rw [if_neg (fun h' => h.1.mp h' hc), if_pos hc]; exact ht hc (h.2 hc)
  · rw [if_pos (h.1.mpr hc), if_neg hc]; rfl

/-- the fix-up of both signed wrappers when dividend and divisor have opposite signs: quotient `-q`, or `-q - 1` and the
    complemented remainder `e` when the division is inexact; nothing overflows -/
theorem negFixup (prof : Profile) {q r : Nat} {e D M : Int} (hq : q ≤ I128_MAX.toNat) (he : fitsI128 e = true)
    (h0 : r = 0 → D = -(q : Int) ∧ M = 0) (h1 : r ≠ 0 → D = -(q : Int) - 1 ∧ M = e) :
    (if (r : Int) = 0 then do
        let q ← negI128 prof (q : Int)
        pure (some (q, (r : Int)))
      else do
        let q ← negI128 prof (q : Int)
        let q ← plainI128 prof (q - 1)
        let r ← plainI128 prof e
        pure (some (q, r))) = (.ok (some (D, M)) : Outcome (Option (Int × Int))) := by
  rw [Int.le_toNat (by decide)] at hq
  have hb : fitsI128 (-(q : Int)) = true ∧ fitsI128 (-(q : Int) - 1) = true := by
    rw [fitsI128_iff, fitsI128_iff]; unfold I128_MIN I128_MAX at *; omega
  by_cases hr0 : r = 0
  · obtain ⟨a, b⟩ := h0 hr0
    rw [if_pos (Int.natCast_eq_zero.mpr hr0), negI128, plainI128_ok prof hb.1, Outcome.bind_ok, Outcome.pure_eq, a, b, hr0]; rfl
  · obtain ⟨a, b⟩ := h1 hr0
    rw [if_neg (mt Int.natCast_eq_zero.mp hr0), negI128, plainI128_ok prof hb.1, Outcome.bind_ok, plainI128_ok prof hb.2,
      Outcome.bind_ok, plainI128_ok prof he, Outcome.bind_ok, Outcome.pure_eq, a, b]

/-- the common sign-fixing tail of `i256_div_mod_floor` and `i128_shifted_div_mod_floor` (divisor `y > 0`) -/
theorem signedTail (prof : Profile) (P : Nat) (N y : Int) (neg : Prop) [Decidable neg]
    (hy : 0 < y ∧ y ≤ I128_MAX) (qh ql r : Nat)
    (hQ : qh * U128_MOD + ql = P / y.natAbs) (hR : r = P % y.natAbs)
    (hN : N = if neg then -(P : Int) else (P : Int)) :
    (if qh ≠ 0 ∨ (ql : Int) > I128_MAX then (pure none : Outcome (Option (Int × Int)))
      else
        if neg then
          if IntTy.i128.cast (r : Int) = 0 then do
            let q ← negI128 prof (ql : Int)
            pure (some (q, IntTy.i128.cast (r : Int)))
          else do
            let q ← negI128 prof (ql : Int)
            let q ← plainI128 prof (q - 1)
            let r ← plainI128 prof (y - IntTy.i128.cast (r : Int))
            pure (some (q, r))
        else pure (some ((ql : Int), IntTy.i128.cast (r : Int)))) =
      Outcome.ok (if P / y.natAbs ≤ I128_MAX.toNat then some (N / y, N % y) else none) := by
  obtain ⟨hy0, hyM⟩ := hy
  have hrl : (r : Int) < y := by rw [hR, ← (floorOfAbs P y hy0).1.2]; exact Int.emod_lt_of_pos _ hy0
  -- `0 ≤ r < y`: the remainder and its complement are `i128`s
  have hb : (r : Int) ≤ I128_MAX ∧ I128_MIN ≤ y - r ∧ y - r ≤ I128_MAX := by
    unfold I128_MIN I128_MAX at *; omega
  rw [i128_cast_id (Int.le_trans (by decide) (Int.natCast_nonneg r)) hb.1]
  obtain ⟨⟨fp1, fp2⟩, fn0, fn1⟩ := floorOfAbs P y hy0
  rw [← hR] at fp2 fn0 fn1
  refine wideQuot_ite hQ _ _ fun hQle hq => ?_
  subst hq
  by_cases hneg : neg
  · rw [if_pos hneg] at hN ⊢
    subst hN
    exact negFixup prof hQle ((fitsI128_iff _).mpr hb.2) fn0 fn1
  · rw [if_neg hneg] at hN ⊢
    subst hN
    rw [fp1, fp2]; rfl

/-- the sign-fixing tail of `i128_shifted_div_mod_floor` for a negative divisor (after the D13 repair this branch is live): with
    `M = -N` and `Y = -y > 0` the result is the floor quotient `M / Y = N / y` and the remainder `-(M % Y)`, which has the sign of `y` -/
theorem signedTailNeg (prof : Profile) (P : Nat) (N y : Int) (neg : Prop) [Decidable neg]
    (hy : I128_MIN ≤ y ∧ y < 0) (qh ql r : Nat)
    (hQ : qh * U128_MOD + ql = P / y.natAbs) (hR : r = P % y.natAbs) (hql : ql < U128_MOD)
    (hN : N = if neg then -(P : Int) else (P : Int)) :
    (if qh ≠ 0 ∨ (ql : Int) > I128_MAX then (pure none : Outcome (Option (Int × Int)))
      else
        if neg then do
          let r ← negI128 prof (IntTy.i128.cast (r : Int))
          pure (some ((ql : Int), r))
        else
          if IntTy.i128.cast (r : Int) = 0 then do
            let q ← negI128 prof (ql : Int)
            pure (some (q, IntTy.i128.cast (r : Int)))
          else do
            let q ← negI128 prof (ql : Int)
            let q ← plainI128 prof (q - 1)
            let r ← plainI128 prof (IntTy.i128.cast (r : Int) + y)
            pure (some (q, r))) =
      Outcome.ok (if P / y.natAbs ≤ I128_MAX.toNat then some ((-N) / (-y), -((-N) % (-y))) else none) := by
  obtain ⟨hyM, hy0⟩ := hy
  have hy0' := Int.neg_pos_of_neg hy0
  have hrl : (r : Int) < -y := by
    rw [hR, ← Int.natAbs_neg, ← (floorOfAbs P (-y) hy0').1.2]; exact Int.emod_lt_of_pos _ hy0'
  -- `0 ≤ r < -y`: the remainder, its negative and its complement are `i128`s
  have hb : (r : Int) ≤ I128_MAX ∧ (I128_MIN ≤ -(r : Int) ∧ -(r : Int) ≤ I128_MAX) ∧ I128_MIN ≤ r + y ∧ r + y ≤ I128_MAX := by
    unfold I128_MIN I128_MAX at *; omega
  rw [i128_cast_id (Int.le_trans (by decide) (Int.natCast_nonneg r)) hb.1]
  obtain ⟨⟨fp1, fp2⟩, fn0, fn1⟩ := floorOfAbs P (-y) hy0'
  rw [Int.natAbs_neg, ← hR] at fp2 fn0 fn1
  rw [Int.natAbs_neg] at fp1
  refine wideQuot_ite hQ _ _ fun hQle hq => ?_
  subst hq
  by_cases hneg : neg
  · rw [if_pos hneg] at hN ⊢
    subst hN
    rw [negI128, plainI128_ok prof ((fitsI128_iff _).mpr hb.2.1), Outcome.bind_ok, Outcome.pure_eq, Int.neg_neg, fp1, fp2]
  · rw [if_neg hneg] at hN ⊢
    subst hN
    exact negFixup prof hQle ((fitsI128_iff _).mpr hb.2.2)
      (fun h => ⟨(fn0 h).1, by rw [(fn0 h).2]; rfl⟩) (fun h => ⟨(fn1 h).1, by rw [(fn1 h).2, Int.neg_sub, Int.sub_neg]⟩)

theorem natAbs_cases (x : Int) : x < 0 ∧ (x.natAbs : Int) = -x ∨ ¬ x < 0 ∧ (x.natAbs : Int) = x :=
  if h : x < 0 then .inl ⟨h, Int.ofNat_natAbs_of_nonpos (Int.le_of_lt h)⟩
  else .inr ⟨h, Int.natAbs_of_nonneg (Int.not_lt.mp h)⟩

/-- the unsigned core of both signed wrappers: the 256-bit product, given by its two words, divided by `|y|` -/
theorem wideMulDiv (prof : Profile) (a b : Nat) (y : Int) (ha : a < U128_MOD) (hb : b < U128_MOD) (hy0 : y ≠ 0)
    (hy : I128_MIN ≤ y ∧ y ≤ I128_MAX) :
    u256IdivU128 prof (a * b / U128_MOD) (a * b % U128_MOD) y.natAbs =
      .ok (a * b / y.natAbs / U128_MOD, a * b / y.natAbs % U128_MOD, a * b % y.natAbs) := by
  rw [u256IdivU128_eq prof _ _ _ (Nat.div_lt_of_lt_mul (Nat.mul_lt_mul'' ha hb)) (Nat.mod_lt _ (by decide))
    (Int.natAbs_pos.mpr hy0) (natAbs_lt_U128 hy), Nat.div_add_mod']

/-- `i256_div_mod_floor(x1, x2, y)` for `y > 0`: floor quotient and remainder of the exact product,
    `None` exactly when the truncated quotient magnitude exceeds `i128::MAX` -/
theorem i256DivModFloor_spec (prof : Profile) (x1 x2 y : Int)
    (h1 : I128_MIN ≤ x1 ∧ x1 ≤ I128_MAX) (h2 : I128_MIN ≤ x2 ∧ x2 ≤ I128_MAX) (hy : 0 < y ∧ y ≤ I128_MAX) :
    i256DivModFloor prof x1 x2 y =
      .ok (if ((x1 * x2).natAbs / y.natAbs : Nat) ≤ I128_MAX.toNat then some ((x1 * x2) / y, (x1 * x2) % y) else none) := by
  have ha := natAbs_lt_U128 h1
  have hb := natAbs_lt_U128 h2
  unfold i256DivModFloor
  rw [decide_eq_true hy.1, debugAssert_true, Outcome.bind_ok, u128MulU128_eq prof _ _ ha hb, Outcome.bind_ok]
  dsimp only
  rw [wideMulDiv prof _ _ y ha hb (Int.ne_of_gt hy.1) ⟨Int.le_trans (by decide) (Int.le_of_lt hy.1), hy.2⟩, Outcome.bind_ok]
  dsimp only
  rw [Int.natAbs_mul]
  refine signedTail prof (x1.natAbs * x2.natAbs) (x1 * x2) y _ hy _ _ _ (Nat.div_add_mod' _ _) rfl ?_
  rw [Int.natCast_mul]
  rcases natAbs_cases x1 with ⟨a1, n1⟩ | ⟨a1, n1⟩ <;> rcases natAbs_cases x2 with ⟨a2, n2⟩ | ⟨a2, n2⟩ <;>
    rw [n1, n2] <;> simp [a1, a2]

/-- `i128_shifted_div_mod_floor(x, p, y)`, `p ≤ 38`, any non-zero divisor: the floor quotient of `x·10^p` by `y` and the remainder
    with the sign of `y`; `None` exactly when the truncated quotient magnitude exceeds `i128::MAX` -/
theorem i128ShiftedDivModFloor_fdiv (prof : Profile) (x : Int) (p : Nat) (y : Int)
    (h1 : I128_MIN ≤ x ∧ x ≤ I128_MAX) (hp : p ≤ 38) (hy : I128_MIN ≤ y ∧ y ≤ I128_MAX) (hy0 : y ≠ 0) :
    i128ShiftedDivModFloor prof x p y =
      .ok (if ((x * 10 ^ p).natAbs / y.natAbs : Nat) ≤ I128_MAX.toNat
        then some ((x * 10 ^ p).fdiv y, (x * 10 ^ p).fmod y) else none) := by
  have hpow : (10 : Nat) ^ p ≤ 10 ^ 38 := Nat.pow_le_pow_right (by decide) hp
  have hcast : (IntTy.u128.cast ((10 : Int) ^ p)).toNat = 10 ^ p := by
    rw [cast_u128_nonneg (Int.le_of_lt (pow10_pos p)) (pow10_le_max hp)]
    exact_mod_cast Int.toNat_natCast (10 ^ p)
  have ha := natAbs_lt_U128 h1
  have hb : 10 ^ p < U128_MOD := by unfold U128_MOD; omega
  unfold i128ShiftedDivModFloor
  rw [tenPow_ok p hp, Outcome.bind_ok, hcast, u128MulU128_eq prof _ _ ha hb, Outcome.bind_ok]
  dsimp only
  rw [wideMulDiv prof _ _ y ha hb hy0 hy, Outcome.bind_ok]
  dsimp only
  rw [natAbs_mul_pow10]
  have hN : x * 10 ^ p = if x < 0 then -((x.natAbs * 10 ^ p : Nat) : Int) else ((x.natAbs * 10 ^ p : Nat) : Int) := by
    simp only [Int.natCast_mul, Int.natCast_pow, Nat.cast_ofNat]
    rcases natAbs_cases x with ⟨a, n⟩ | ⟨a, n⟩
    · rw [n, if_pos a, Int.neg_mul, Int.neg_neg]
    · rw [n, if_neg a]
  rcases Int.lt_or_gt_of_ne hy0 with hneg | hpos
  · simp only [hneg, if_true]
    rw [(fdiv_fmod_neg _ hneg).1, (fdiv_fmod_neg _ hneg).2]
    exact signedTailNeg prof (x.natAbs * 10 ^ p) (x * 10 ^ p) y _ ⟨hy.1, hneg⟩ _ _ _ (Nat.div_add_mod' _ _) rfl
      (Nat.mod_lt _ (by decide)) hN
  · have hy' := Int.le_of_lt hpos
    simp only [Int.not_lt.mpr hy', if_false]
    rw [Int.fdiv_eq_ediv_of_nonneg _ hy', Int.fmod_eq_emod_of_nonneg _ hy']
    exact signedTail prof (x.natAbs * 10 ^ p) (x * 10 ^ p) y _ ⟨hpos, hy.2⟩ _ _ _ (Nat.div_add_mod' _ _) rfl hN

/-- `i128_shifted_div_mod_floor(x, p, y)` for `y < 0` (the branch the D13 repair made live): the floor quotient of
    `x·10^p / y = (-(x·10^p)) / (-y)` and a remainder with the sign of `y` -/
theorem i128ShiftedDivModFloor_spec_neg (prof : Profile) (x : Int) (p : Nat) (y : Int)
    (h1 : I128_MIN ≤ x ∧ x ≤ I128_MAX) (hp : p ≤ 38) (hy : I128_MIN ≤ y ∧ y < 0) :
    i128ShiftedDivModFloor prof x p y =
      .ok (if ((x * 10 ^ p).natAbs / y.natAbs : Nat) ≤ I128_MAX.toNat
        then some ((-(x * 10 ^ p)) / (-y), -((-(x * 10 ^ p)) % (-y))) else none) := by
  rw [i128ShiftedDivModFloor_fdiv prof x p y h1 hp ⟨hy.1, Int.le_trans (Int.le_of_lt hy.2) (by decide)⟩ (Int.ne_of_lt hy.2),
    (fdiv_fmod_neg _ hy.2).1, (fdiv_fmod_neg _ hy.2).2]

end Fpdec
