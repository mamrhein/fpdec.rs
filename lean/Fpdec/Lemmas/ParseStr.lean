import Fpdec.Lemmas.ParseAccum
import Fpdec.Lemmas.ParseSpec
import Fpdec.Lemmas.Dom
import Fpdec.Lemmas.IntTy
import Fpdec.Lemmas.Rounding
-- no tactic of these two is used here: files that import this one (Kernels/Parse.lean, Props/C18.lean) state their theorems with
-- the instances these bring (`2 ^ 63` through `Monoid.toNPow`, `DecidableEq (Except ε α)`)
import Mathlib.Tactic.Ring
import Mathlib.Tactic.NormNum

/-! # `str_to_dec` cut into pieces (`mBody`, `mFrac`, `mExp`, `mTail`); its sign, leading zeroes and exponent loop; what its loops
leave is a suffix of the input, and the coefficient it returns is an `i128` -/

namespace Fpdec.ParseAux
open Fpdec Fpdec.Model

def mFrac (coeff : Nat) (s1 : List Nat) : Nat × List Nat × Nat :=
  match s1 with
  | 46 :: rest => accumCoeff coeff rest
  | _ => (coeff, s1, 0)

def mExp (prof : Profile) (s2 : List Nat) : Outcome (Except ParseErr (Int × List Nat)) :=
  match s2 with
  | [] => .ok (.ok (0, []))
  | c :: rest =>
    if c = 101 ∨ c = 69 then
      match takeSign rest with
      | none => .ok (.error .invalid)
      | some (expNeg, s3) =>
        let r := accumExp 0 s3
        let nExp := s3.length - r.2.length
        match (if expNeg then IntTy.isize.plain prof (-r.1) else .ok r.1) with
        | .panic k => .panic k
        | .ok exp => if nExp = 0 then .ok (.error .invalid) else .ok (.ok (exp, r.2))
    else .ok (.error .invalid)

def mTail (prof : Profile) (isNeg : Bool) (coeff nFrac : Nat)
    (expPart : Outcome (Except ParseErr (Int × List Nat))) : Outcome (Except ParseErr (Int × Int)) :=
    match expPart with
    | .panic k => .panic k
    | .ok (.error e) => .ok (.error e)
    | .ok (.ok (exp, s5)) =>
      if !s5.isEmpty then .ok (.error .invalid) else
      match IntTy.isize.plain prof (exp - nFrac) with
      | .panic k => .panic k
      | .ok exp =>
        match IntTy.isize.plain prof (-exp) with
        | .panic k => .panic k
        | .ok nexp =>
          if nexp > Gen.MAX_N_FRAC_DIGITS then .ok (.error .fracLimit) else
          let c : Int := IntTy.i128.cast coeff
          if isNeg then
            match negI128 prof c with
            | .panic k => .panic k
            | .ok c => .ok (.ok (c, exp))
          else .ok (.ok (c, exp))

/-- everything after the sign -/
def mBody (prof : Profile) (isNeg : Bool) (s : List Nat) : Outcome (Except ParseErr (Int × Int)) :=
  if s.isEmpty then .ok (.error .invalid) else
  let s' := skipLeadingZeroes s
  if s'.isEmpty then .ok (.ok (0, 0)) else
  let r1 := accumCoeff 0 s'
  let r2 := mFrac r1.1 r1.2.1
  if r1.2.2 + r2.2.2 = 0 ∧ !decide (s'.length < s.length) then .ok (.error .invalid) else
  if (r2.1 : Int) > I128_MAX then .ok (.error .overflow) else
  mTail prof isNeg r2.1 r2.2.2 (mExp prof r2.2.1)

theorem strToDec_eq (prof : Profile) (lit : List Nat) :
    strToDec prof lit =
      match takeSign lit with
      | none => .ok (.error .empty)
      | some (isNeg, s) => mBody prof isNeg s := by
  unfold strToDec mBody mFrac mExp mTail
  -- `rfl` on its own unfolds the functions called until the recursion limit; with them opaque the two sides differ in their
  -- `let`s and tuple patterns only
  generalize IntTy.isize.plain prof = F
  generalize negI128 prof = G
  generalize IntTy.i128.cast = H
  generalize accumExp 0 = A
  generalize accumCoeff = B
  generalize takeSign = T
  generalize skipLeadingZeroes = S
  rfl

/-- the model writes every step as a `match` on its outcome; the translated code and the `Post` combinators want `>>=` -/
theorem mTail_ok (prof : Profile) (isNeg : Bool) (coeff nFrac : Nat) (exp : Int) (s5 : List Nat) :
    mTail prof isNeg coeff nFrac (.ok (.ok (exp, s5))) =
      if !s5.isEmpty then pure (.error .invalid) else
      IntTy.isize.plain prof (exp - nFrac) >>= fun exp =>
      IntTy.isize.plain prof (-exp) >>= fun nexp =>
      if nexp > Gen.MAX_N_FRAC_DIGITS then pure (.error .fracLimit) else
      if isNeg then negI128 prof (IntTy.i128.cast coeff) >>= fun c => pure (.ok (c, exp))
      else pure (.ok (IntTy.i128.cast coeff, exp)) := by
  unfold mTail
  dsimp only
  cases IntTy.isize.plain prof (exp - nFrac) with
  | panic k => rfl
  | ok e1 =>
    dsimp only [Outcome.bind_ok]
    cases IntTy.isize.plain prof (-e1) with
    | panic k => rfl
    | ok e2 => cases negI128 prof (IntTy.i128.cast coeff) <;> rfl

theorem takeSign_nil : takeSign [] = none := rfl

theorem takeSign_cons (c : Nat) (cs : List Nat) : takeSign (c :: cs) = some (Spec.optSign (c :: cs)) := by
  rw [optSign_cons]
  unfold takeSign
  by_cases h1 : c = 45
  · simp [h1]
  · by_cases h2 : c = 43 <;> simp [h1, h2]

theorem skip_spec (s : List Nat) : ∃ n, s = List.replicate n 48 ++ skipLeadingZeroes s := by
  induction s with
  | nil => exact ⟨0, rfl⟩
  | cons c cs ih =>
    unfold skipLeadingZeroes
    split
    · subst_vars; obtain ⟨n, h⟩ := ih; exact ⟨n + 1, congrArg (48 :: ·) h⟩
    · exact ⟨0, rfl⟩

theorem skipLeadingZeroes_suffix (s : List Nat) : skipLeadingZeroes s <:+ s :=
  let ⟨_, h⟩ := skip_spec s
  ⟨_, h.symm⟩

theorem accumExp_suffix (e : Int) (s : List Nat) : (accumExp e s).2 <:+ s := by
  fun_induction accumExp e s with
  | case2 _ _ _ _ _ _ ih => exact ih.trans (List.suffix_cons _ _)
  | _ => exact List.suffix_refl _

theorem mFrac_spec (a : Nat) (r1 : List Nat) (hb : ∀ x ∈ r1, x < 256) :
    mFrac (min a M128) r1 =
      (min (pushDigits a (sFrac r1).1) M128, (sFrac r1).2.1, (sFrac r1).1.length) := by
  unfold mFrac sFrac
  split
  · exact accumCoeff_gen a _ (fun x hx => hb x (List.mem_cons_of_mem _ hx))
  · simp [pushDigits]

theorem mFrac_suffix (c : Nat) (s1 : List Nat) : (mFrac c s1).2.1 <:+ s1 := by
  unfold mFrac
  split
  · exact (accumCoeff_suffix _ _).trans (List.suffix_cons _ _)
  · exact List.suffix_refl _

theorem mFrac_count_le (c : Nat) (s1 : List Nat) : (mFrac c s1).2.2 ≤ s1.length := by
  unfold mFrac
  split
  · exact Nat.le_trans (Nat.sub_le _ _) (Nat.le_succ _)
  · exact Nat.zero_le _

theorem expLimit_eq : EXP_LIMIT = 92233720368547758 := by decide

/-- `accum_exp` started on a value `E` that is the true value `N` of the digits read so far or, like it, at least `EXP_LIMIT`
    (from where on the model stops accumulating): it consumes the leading digits, stays in range, and the same holds at the end -/
theorem accumExp_spec (s : List Nat) (hb : ∀ x ∈ s, x < 256) : ∀ (E : Int) (N : Nat), 0 ≤ E → E ≤ 10 * EXP_LIMIT + 9 →
    (E = N ∨ EXP_LIMIT ≤ E ∧ EXP_LIMIT ≤ (N : Int)) →
    ∃ E' : Int, accumExp E s = (E', (Spec.spanDigits s).2) ∧ 0 ≤ E' ∧ E' ≤ 10 * EXP_LIMIT + 9 ∧
      (E' = (pushDigits N (Spec.spanDigits s).1 : Nat) ∨ EXP_LIMIT ≤ E' ∧ EXP_LIMIT ≤ ((pushDigits N (Spec.spanDigits s).1 : Nat) : Int)) := by
  induction s with
  | nil => exact fun E N h0 h1 h => ⟨E, rfl, h0, h1, h⟩
  | cons c cs ih =>
    intro E N h0 h1 h
    have hc : c < 256 := hb c (by simp)
    have ih := ih (fun x hx => hb x (List.mem_cons_of_mem _ hx))
    unfold accumExp
    cases hd : Spec.isDig c
    · rw [if_neg (by rw [digitVal_lt_iff c hc, hd]; simp), span_cons_nondig c cs hd]
      exact ⟨E, rfl, h0, h1, h⟩
    · rw [if_pos (by rw [digitVal_lt_iff c hc, hd]), span_cons_dig c cs hd, digitVal_of_isDig c hd]
      rw [pushDigits_cons]
      have h9 : c - 48 ≤ 9 := by have := isDig_iff.mp hd; omega
      generalize c - 48 = d at h9 ⊢
      by_cases hlim : E < EXP_LIMIT
      · -- below the limit the two wrapping operations change nothing: every value stays in `0 ..= 10 * EXP_LIMIT + 9`
        have wrap_id : ∀ {x : Int}, 0 ≤ x → x ≤ 10 * EXP_LIMIT + 9 → IntTy.isize.wrap x = x := fun hx0 hx1 =>
          isize_cast_id (Int.le_trans (by decide) hx0) (Int.le_trans hx1 (by decide))
        have h10 : 0 ≤ E * 10 := Int.mul_nonneg h0 (by decide)
        have hd0 : 0 ≤ E * 10 + d := Int.add_nonneg h10 (Int.natCast_nonneg d)
        have hd1 : E * 10 + d ≤ 10 * EXP_LIMIT + 9 := by omega
        rw [if_pos hlim, wrap_id h10 (Int.le_trans (Int.le_add_of_nonneg_right (Int.natCast_nonneg d)) hd1), wrap_id hd0 hd1]
        exact ih _ (N * 10 + d) hd0 hd1 (by omega)
      · rw [if_neg hlim]
        exact ih _ (N * 10 + d) h0 h1 (by omega)

/-! The coefficient `str_to_dec` returns is an `i128`, whatever the input: it is 0, or comes out of a cast or a negation. -/

def CoeffFits (r : Except ParseErr (Int × Int)) : Prop := ∀ c e, r = .ok (c, e) → fitsI128 c = true

theorem CoeffFits.error (e : ParseErr) : CoeffFits (.error e) := fun _ _ h => nomatch h
theorem CoeffFits.ok {c e : Int} (h : fitsI128 c = true) : CoeffFits (.ok (c, e)) := fun _ _ h' => by cases h'; exact h

theorem mTail_fits (prof : Profile) (isNeg : Bool) (coeff nFrac : Nat) (ep : Outcome (Except ParseErr (Int × List Nat))) :
    Post (mTail prof isNeg coeff nFrac ep) CoeffFits := by
  rcases ep with (e | ⟨exp, s5⟩) | k
  · exact .ok (.error e)
  · rw [mTail_ok]
    exact .ite (fun _ => .pure (.error _)) fun _ => .bind' fun _ => .bind' fun _ => .ite (fun _ => .pure (.error _)) fun _ =>
      .ite (fun _ => (plainI128_fits prof _).bind fun _ hc => .pure (.ok hc)) fun _ => .pure (.ok (IntTy.fits_wrap .i128 (by decide) _))
  · exact .panic

theorem mBody_fits (prof : Profile) (isNeg : Bool) (s : List Nat) : Post (mBody prof isNeg s) CoeffFits :=
  .ite (fun _ => .ok (.error _)) fun _ => .ite (fun _ => .ok (.ok (by decide))) fun _ => .ite (fun _ => .ok (.error _)) fun _ =>
    .ite (fun _ => .ok (.error _)) fun _ => mTail_fits _ _ _ _ _

theorem strToDec_fits (prof : Profile) (lit : List Nat) : Post (strToDec prof lit) CoeffFits := by
  rw [strToDec_eq]
  cases takeSign lit with
  | none => exact .ok (.error _)
  | some p => exact mBody_fits prof p.1 p.2

end Fpdec.ParseAux
