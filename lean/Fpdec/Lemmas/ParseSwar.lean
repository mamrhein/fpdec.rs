import Fpdec.Lemmas.ParseSpec
import Fpdec.Model.Parser

/-! # The two SWAR tricks of the parser: `chunk_contains_8_digits` and `chunk_to_u64` on eight bytes read as a `u64` -/

namespace Fpdec.ParseAux
open Fpdec Fpdec.Model

theorem U64M_eq : U64M = 2 ^ 64 := by decide

theorem and_split (k a b : Nat) :
    a &&& b = (a % 2 ^ k &&& b % 2 ^ k) + 2 ^ k * (a / 2 ^ k &&& b / 2 ^ k) := by
  have h := Nat.div_add_mod (a &&& b) (2 ^ k)
  rw [Nat.and_mod_two_pow, ← Nat.shiftRight_eq_div_pow, Nat.shiftRight_and_distrib,
    Nat.shiftRight_eq_div_pow, Nat.shiftRight_eq_div_pow] at h
  omega

theorem or_split (k a b : Nat) :
    a ||| b = (a % 2 ^ k ||| b % 2 ^ k) + 2 ^ k * (a / 2 ^ k ||| b / 2 ^ k) := by
  have h := Nat.div_add_mod (a ||| b) (2 ^ k)
  rw [Nat.or_mod_two_pow, ← Nat.shiftRight_eq_div_pow, Nat.shiftRight_or_distrib,
    Nat.shiftRight_eq_div_pow, Nat.shiftRight_eq_div_pow] at h
  omega

theorem test_split (x y h : Nat) :
    ((x ||| y) &&& h = 0) ↔
      (((x % 256 ||| y % 256) &&& h % 256 = 0) ∧ ((x / 256 ||| y / 256) &&& h / 256 = 0)) := by
  have e : (256 : Nat) = 2 ^ 8 := by decide
  have h1 := and_split 8 (x ||| y) h
  have h2 : (x ||| y) % 2 ^ 8 = x % 2 ^ 8 ||| y % 2 ^ 8 := Nat.or_mod_two_pow
  have h3 : (x ||| y) / 2 ^ 8 = x / 2 ^ 8 ||| y / 2 ^ 8 := by
    rw [← Nat.shiftRight_eq_div_pow, Nat.shiftRight_or_distrib, Nat.shiftRight_eq_div_pow,
      Nat.shiftRight_eq_div_pow]
  rw [h2, h3] at h1
  rw [e]
  constructor
  · intro h0; rw [h0] at h1; omega
  · intro ⟨ha, hb⟩; rw [ha, hb] at h1; omega

def rep (n b : Nat) : Nat := leBytes (List.replicate n b)

theorem rep_succ (n b : Nat) : rep (n + 1) b = b + 256 * rep n b := rfl

theorem byte_test : ∀ b, b < 256 →
    ((((b + 208) % 256 ||| (b + 70) % 256) &&& 128 = 0) ↔ Spec.isDig b = true) := by
  decide +kernel

theorem low_byte (r W P : Nat) : (r + 256 * W) % (P * 256) % 256 = r % 256 := by
  rw [Nat.mod_mul_left_mod, Nat.add_mul_mod_self_left]

theorem high_bytes (r W P : Nat) (hr : r < 256) : (r + 256 * W) % (P * 256) / 256 = W % P := by
  rw [Nat.mul_comm P 256, Nat.mod_mul_right_div_self, Nat.add_mul_div_left _ _ (by decide), Nat.div_eq_of_lt hr, Nat.zero_add]

/-- the word that `chunk_contains_8_digits` tests, for `n` bytes instead of 8; subtracting `0x30…30` is adding its complement
    `0xCF…CF + 1` -/
def digitTest (n V : Nat) : Nat :=
  ((V + (rep n 207 + 1)) % 256 ^ n ||| (V + rep n 70) % 256 ^ n) &&& rep n 128

theorem digitTest_iff (bs : List Nat) (hb : ∀ c ∈ bs, c < 256) :
    digitTest bs.length (leBytes bs) = 0 ↔ ∀ c ∈ bs, Spec.isDig c = true := by
  induction bs with
  | nil => simp [digitTest, rep, leBytes]
  | cons b bs ih =>
    have ih := ih (fun c hc => hb c (List.mem_cons_of_mem _ hc))
    have hbt := byte_test b (hb b List.mem_cons_self)
    unfold digitTest at ih ⊢
    simp only [List.length_cons, leBytes, rep_succ, Nat.pow_succ]
    generalize leBytes bs = V at *
    generalize rep bs.length 207 = S at *
    generalize rep bs.length 70 = A at *
    generalize rep bs.length 128 = H at *
    generalize 256 ^ bs.length = P at *
    have hx : b + 256 * V + (207 + 256 * S + 1) = (b + 208) + 256 * (V + S) := by omega
    have hy : b + 256 * V + (70 + 256 * A) = (b + 70) + 256 * (V + A) := by omega
    rw [test_split, hx, hy, low_byte, low_byte, Nat.add_mul_mod_self_left, Nat.add_mul_div_left _ _ (by decide), hbt]
    simp only [List.mem_cons, forall_eq_or_imp]
    refine and_congr_right fun hd => ?_
    -- a digit in the lowest byte carries into the bytes above it when `0xD0` is added and does not when `0x46` is
    have hd' := isDig_iff.mp hd
    rw [show b + 208 + 256 * (V + S) = (b - 48) + 256 * (V + (S + 1)) by omega, high_bytes _ _ _ (by omega),
      high_bytes _ _ _ (by omega), show (128 : Nat) / 256 = 0 from rfl, Nat.zero_add]
    exact ih

theorem _root_.Fpdec.chunkContains8Digits_iff (bs : List Nat) (hlen : bs.length = 8) (hb : ∀ c ∈ bs, c < 256) :
    chunkContains8Digits (leBytes bs) = true ↔ ∀ c ∈ bs, Spec.isDig c = true := by
  rw [← digitTest_iff bs hb, hlen]
  have e1 : U64M - Gen.SWAR_SUB % U64M = rep 8 207 + 1 := by decide
  have e2 : rep 8 70 = Gen.SWAR_ADD := by decide
  have e3 : rep 8 128 = Gen.SWAR_HI := by decide
  have e4 : (256 : Nat) ^ 8 = U64M := by decide
  unfold chunkContains8Digits digitTest wsub64 wadd64
  rw [Nat.add_sub_assoc (by decide), e1, e2, e3, e4]
  simp

def fields (K : Nat) : List Nat → Nat
  | [] => 0
  | f :: fs => f + K * fields K fs

theorem leBytes_eq_fields (bs : List Nat) : leBytes bs = fields (2 ^ 8) bs := by
  induction bs with
  | nil => rfl
  | cons b bs ih => simp only [leBytes, fields, ih]

theorem dig_and15 : ∀ b, b < 256 → Spec.isDig b = true → b &&& 15 = b - 48 := by decide +kernel

theorem and_low (x n : Nat) (h : x < 2 ^ n) : x &&& (2 ^ n - 1) = x := by
  rw [Nat.and_two_pow_sub_one_eq_mod, Nat.mod_eq_of_lt h]

def pairUp (m : Nat) : List Nat → List Nat
  | a :: b :: r => (a * m + b) :: pairUp m r
  | _ => []

theorem shift_field (w a x : Nat) (ha : a < 2 ^ w) : (a + 2 ^ w * x) >>> w = x := by
  rw [Nat.shiftRight_eq_div_pow, Nat.add_mul_div_left _ _ (Nat.two_pow_pos w), Nat.div_eq_of_lt ha, Nat.zero_add]

/-- the lowest field of a word under a mask whose fields are twice as wide: the field survives, its neighbour is dropped -/
theorem and_pair (w a x μ M : Nat) (ha : a < 2 ^ w) (haμ : a &&& μ = a) (hμ : μ < 2 ^ w) :
    (a + 2 ^ w * x) &&& (μ + 2 ^ (w + w) * M) = a + 2 ^ (w + w) * ((x >>> w) &&& M) := by
  have hp := Nat.two_pow_pos w
  have hpp := Nat.two_pow_pos (w + w)
  have hμ' : μ < 2 ^ (w + w) := Nat.lt_of_lt_of_le hμ (Nat.pow_le_pow_right (by decide) (Nat.le_add_right w w))
  have e1 : (a + 2 ^ w * x) % 2 ^ (w + w) = a + 2 ^ w * (x % 2 ^ w) := by
    rw [Nat.pow_add, Nat.mod_mul, Nat.add_mul_mod_self_left, Nat.mod_eq_of_lt ha, Nat.add_mul_div_left _ _ hp,
      Nat.div_eq_of_lt ha, Nat.zero_add]
  have e2 : (a + 2 ^ w * x) / 2 ^ (w + w) = x >>> w := by
    rw [Nat.pow_add, ← Nat.div_div_eq_div_mul, Nat.add_mul_div_left _ _ hp, Nat.div_eq_of_lt ha, Nat.zero_add,
      Nat.shiftRight_eq_div_pow]
  rw [and_split (w + w), e1, e2, Nat.add_mul_mod_self_left, Nat.mod_eq_of_lt hμ', Nat.add_mul_div_left _ _ hpp,
    Nat.div_eq_of_lt hμ', Nat.zero_add]
  congr 1
  rw [and_split w, Nat.add_mul_mod_self_left, Nat.mod_eq_of_lt ha, Nat.mod_eq_of_lt hμ, Nat.add_mul_div_left _ _ hp,
    Nat.div_eq_of_lt ha, Nat.div_eq_of_lt hμ, Nat.zero_add, Nat.and_zero, Nat.mul_zero, Nat.add_zero, haμ]

/-- one round: mask every other field, multiply, add the shifted and masked rest (plain arithmetic) -/
theorem swar_round (w m μ : Nat) (hμ : μ < 2 ^ w) : ∀ (n : Nat) (fs : List Nat), fs.length = 2 * n →
    (∀ f ∈ fs, f < 2 ^ w ∧ f &&& μ = f) →
    (fields (2 ^ w) fs &&& fields (2 ^ (w + w)) (List.replicate n μ)) * m +
      ((fields (2 ^ w) fs >>> w) &&& fields (2 ^ (w + w)) (List.replicate n μ)) =
    fields (2 ^ (w + w)) (pairUp m fs)
  | 0, [], _, _ => by simp [fields, pairUp]
  | n + 1, a :: b :: r, hl, h => by
    have ha := h a (by simp)
    have hb := h b (by simp)
    have ih := swar_round w m μ hμ n r (by simp only [List.length_cons] at hl; omega) (fun f hf => h f (by simp [hf]))
    simp only [fields, pairUp, List.replicate_succ]
    rw [← ih, and_pair w a _ μ _ ha.1 ha.2 hμ, shift_field w a _ ha.1, shift_field w b _ hb.1,
      and_pair w b _ μ _ hb.1 hb.2 hμ, Nat.add_mul, Nat.mul_assoc, Nat.mul_add]
    omega

theorem fields_lt (K : Nat) : ∀ fs : List Nat, (∀ f ∈ fs, f < K) → fields K fs < K ^ fs.length
  | [], _ => by simp [fields]
  | f :: fs, h => by
    have h0 := h f (by simp)
    have ih := fields_lt K fs (fun g hg => h g (by simp [hg]))
    simp only [fields, List.length_cons, Nat.pow_succ]
    calc f + K * fields K fs < K * (fields K fs + 1) := by rw [Nat.mul_succ]; omega
      _ ≤ K * K ^ fs.length := Nat.mul_le_mul_left _ ih
      _ = K ^ fs.length * K := Nat.mul_comm ..

theorem pairUp_length (m : Nat) : ∀ (n : Nat) (fs : List Nat), fs.length = 2 * n → (pairUp m fs).length = n
  | 0, [], _ => rfl
  | n + 1, a :: b :: r, h => by
    simp only [pairUp, List.length_cons, pairUp_length m n r (by simp only [List.length_cons] at h; omega)]

theorem pairUp_le (m K : Nat) : ∀ fs : List Nat, (∀ f ∈ fs, f ≤ K) → ∀ g ∈ pairUp m fs, g ≤ K * m + K
  | [], _ => by simp [pairUp]
  | [_], _ => by simp [pairUp]
  | a :: b :: r, h => by
    intro g hg
    simp only [pairUp, List.mem_cons] at hg
    rcases hg with rfl | hg
    · exact Nat.add_le_add (Nat.mul_le_mul_right _ (h a (by simp))) (h b (by simp))
    · exact pairUp_le m K r (fun f hf => h f (by simp [hf])) g hg

theorem foldl_pairUp (m : Nat) : ∀ (n : Nat) (fs : List Nat) (acc : Nat), fs.length = 2 * n →
    (pairUp m fs).foldl (fun x f => x * (m * m) + f) acc = fs.foldl (fun x f => x * m + f) acc
  | 0, [], _, _ => rfl
  | n + 1, a :: b :: r, acc, h => by
    simp only [pairUp, List.foldl_cons]
    rw [foldl_pairUp m n r _ (by simp only [List.length_cons] at h; omega)]
    rw [Nat.add_mul, Nat.mul_assoc, Nat.add_assoc]

/-- a round as the code does it, fields of at most `K < 2^k`: the `u64` wrap-around never happens -/
theorem swar_round64 (w k m K n : Nat) (fs : List Nat) (hl : fs.length = 2 * n) (hf : ∀ f ∈ fs, f ≤ K)
    (hK : K < 2 ^ k) (hk : k ≤ w) (hfit : K * m + K < 2 ^ (w + w)) (h64 : (w + w) * n ≤ 64) :
    wadd64 (wmul64 (fields (2 ^ w) fs &&& fields (2 ^ (w + w)) (List.replicate n (2 ^ k - 1))) m)
      ((fields (2 ^ w) fs >>> w) &&& fields (2 ^ (w + w)) (List.replicate n (2 ^ k - 1))) =
    fields (2 ^ (w + w)) (pairUp m fs) := by
  have hkw : 2 ^ k ≤ 2 ^ w := Nat.pow_le_pow_right (by decide) hk
  have hr := swar_round w m (2 ^ k - 1) (by omega) n fs hl
    (fun f h => ⟨by have := hf f h; omega, and_low f k (by have := hf f h; omega)⟩)
  have hlt := fields_lt (2 ^ (w + w)) (pairUp m fs) (fun g hg => by have := pairUp_le m K fs hf g hg; omega)
  rw [pairUp_length m n fs hl, ← Nat.pow_mul] at hlt
  have h2 : 2 ^ ((w + w) * n) ≤ U64M := U64M_eq ▸ Nat.pow_le_pow_right (by decide) h64
  unfold wadd64 wmul64
  rw [Nat.mod_add_mod, hr, Nat.mod_eq_of_lt (by omega)]

theorem fields_and_replicate (w μ : Nat) (hμ : μ < 2 ^ w) : ∀ fs : List Nat, (∀ f ∈ fs, f < 2 ^ w) →
    fields (2 ^ w) fs &&& fields (2 ^ w) (List.replicate fs.length μ) = fields (2 ^ w) (fs.map (· &&& μ))
  | [], _ => by simp [fields]
  | f :: fs, h => by
    have hf := h f (by simp)
    have hp := Nat.two_pow_pos w
    simp only [List.length_cons, List.replicate_succ, fields, List.map_cons]
    rw [and_split w, Nat.add_mul_mod_self_left, Nat.add_mul_mod_self_left, Nat.mod_eq_of_lt hf, Nat.mod_eq_of_lt hμ,
      Nat.add_mul_div_left _ _ hp, Nat.add_mul_div_left _ _ hp, Nat.div_eq_of_lt hf, Nat.div_eq_of_lt hμ, Nat.zero_add,
      Nat.zero_add, fields_and_replicate w μ hμ fs (fun g hg => h g (by simp [hg]))]

theorem _root_.Fpdec.chunkToU64_val (bs : List Nat) (hlen : bs.length = 8) (hd : ∀ c ∈ bs, Spec.isDig c = true) :
    chunkToU64 (leBytes bs) = Spec.digitsVal bs := by
  have hr : ∀ c ∈ bs, 48 ≤ c ∧ c ≤ 57 := fun c hc => isDig_iff.mp (hd c hc)
  -- the low nibbles: the digits as eight 8-bit fields
  have s0 : leBytes bs &&& Gen.SWAR_M1 = fields (2 ^ 8) (bs.map (· - 48)) := by
    have hm : Gen.SWAR_M1 = fields (2 ^ 8) (List.replicate bs.length 15) := by rw [hlen]; decide
    rw [leBytes_eq_fields, hm, fields_and_replicate 8 15 (by decide) bs (fun c hc => by have := hr c hc; omega)]
    exact congrArg _ (List.map_congr_left (fun c hc => dig_and15 c (by have := hr c hc; omega) (hd c hc)))
  have hv : Spec.digitsVal bs = (bs.map (· - 48)).foldl (fun x f => x * 10 + f) 0 := by
    rw [List.foldl_map]; rfl
  have l0 : (bs.map (· - 48)).length = 2 * 4 := by rw [List.length_map, hlen]
  have h9 : ∀ f ∈ bs.map (· - 48), f ≤ 9 := by
    intro f hf
    obtain ⟨c, hc, rfl⟩ := List.mem_map.mp hf
    have := hr c hc; omega
  rw [hv]
  generalize bs.map (· - 48) = ds at s0 l0 h9
  -- three rounds: 8 fields of 8 bits, 4 of 16, 2 of 32, 1 of 64
  have h99 := pairUp_le 10 9 ds h9
  have h9999 := pairUp_le 100 99 _ h99
  have l1 : (pairUp 10 ds).length = 2 * 2 := pairUp_length 10 4 ds l0
  have l2 : (pairUp 100 (pairUp 10 ds)).length = 2 * 1 := pairUp_length 100 2 _ l1
  have l3 := pairUp_length 10000 1 _ l2
  have m2 : Gen.SWAR_M2 = fields (2 ^ (8 + 8)) (List.replicate 4 (2 ^ 4 - 1)) := by decide
  have m3 : Gen.SWAR_M3 = fields (2 ^ (16 + 16)) (List.replicate 2 (2 ^ 7 - 1)) := by decide
  have m4 : Gen.SWAR_M4 = fields (2 ^ (32 + 32)) (List.replicate 1 (2 ^ 14 - 1)) := by decide
  unfold chunkToU64
  simp only []
  rw [s0, m2, swar_round64 8 4 10 9 4 ds l0 h9 (by decide) (by decide) (by decide) (by decide),
    m3, swar_round64 16 7 100 99 2 _ l1 h99 (by decide) (by decide) (by decide) (by decide),
    m4, swar_round64 32 14 10000 9999 1 _ l2 h9999 (by decide) (by decide) (by decide) (by decide),
    ← foldl_pairUp 10 4 ds 0 l0, ← foldl_pairUp 100 2 _ 0 l1, ← foldl_pairUp 10000 1 _ 0 l2]
  match pairUp 10000 (pairUp 100 (pairUp 10 ds)), l3 with
  | [x], _ => simp [fields]

end Fpdec.ParseAux
