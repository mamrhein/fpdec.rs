import Fpdec.Lemmas.Basic

/-!
# Division on `Int`: truncated (Rust's `/`, `%`), floor and Euclidean; which quotients are `i128`s

Rust's division truncates; `i128_div_mod_floor`, `div_floor` and `div_ceil` correct the truncated quotient by the sign of the
remainder (`fdiv_fmod_of_trunc`, `floor_of_tdiv`, `ceil_of_tdiv`).  At the end the model's `/` and `%` on `i128` away from the zero
divisor and `MIN / -1`, and `fract`.
-/

namespace Fpdec
open Fpdec.Model

theorem tmod_zero_iff (x k : Int) : x.tmod k = 0 ↔ x % k = 0 := by
  rw [← Int.dvd_iff_tmod_eq_zero, ← Int.dvd_iff_emod_eq_zero]

theorem tmod_unique {A B t r : Int} (hB : B ≠ 0) (h : A = B * t + r) (hlt : r.natAbs < B.natAbs)
    (hs : (0 ≤ r ∧ 0 ≤ A) ∨ (r ≤ 0 ∧ A ≤ 0)) : A.tmod B = r := by
  rcases hs with ⟨hr, hA⟩ | ⟨hr, hA⟩
  · have := (Int.tdiv_tmod_unique (a := A) (b := B) (r := r) (q := t) hA hB).2 ⟨by omega, hr, by omega⟩
    exact this.2
  · have := (Int.tdiv_tmod_unique' (a := A) (b := B) (r := r) (q := t) hA hB).2 ⟨by omega, by omega, hr⟩
    exact this.2

theorem tmod_sign (A B : Int) : A.tmod B = 0 ∨ (0 < A.tmod B ∧ 0 < A) ∨ (A.tmod B < 0 ∧ A < 0) := by
  rcases Int.lt_trichotomy A 0 with hA | rfl | hA
  · have h1 : 0 ≤ (-A).tmod B := Int.tmod_nonneg B (by omega)
    rw [Int.neg_tmod] at h1
    omega
  · exact .inl (Int.zero_tmod B)
  · have h1 := Int.tmod_nonneg B (Int.le_of_lt hA)
    omega

theorem tmod_eq_self_of_natAbs_lt {a B : Int} (h : a.natAbs < B.natAbs) : a.tmod B = a := by
  have hB : B ≠ 0 := by omega
  apply tmod_unique (t := 0) hB (by simp) h
  omega

theorem tmod_mul_tmod (x b c : Int) : (x.tmod b * c).tmod b = (x * c).tmod b := by
  rw [Int.mul_tmod (x.tmod b) c b, Int.tmod_tmod, ← Int.mul_tmod]

theorem le_ediv_of_nonpos {x y : Int} (hx : x ≤ 0) (hy : 0 < y) : x ≤ x / y := by
  apply Int.le_ediv_of_mul_le hy
  have : x * y ≤ x * 1 := Int.mul_le_mul_of_nonpos_left hx (by omega)
  omega

theorem ediv_bounds (x : Int) {y : Int} (hy : 0 < y) :
    (0 ≤ x → 0 ≤ x / y ∧ x / y ≤ x) ∧ (x < 0 → x ≤ x / y ∧ x / y < 0) :=
  ⟨fun h => ⟨Int.ediv_nonneg h (Int.le_of_lt hy), Int.ediv_le_self y h⟩,
   fun h => ⟨le_ediv_of_nonpos (Int.le_of_lt h) hy, Int.ediv_neg_of_neg_of_pos h hy⟩⟩

theorem emod_le_of_nonneg (X d : Int) (hX : 0 ≤ X) (hd : 0 < d) : X % d ≤ X := by
  have h1 := Int.mul_ediv_add_emod X d
  have h2 : 0 ≤ d * (X / d) := Int.mul_nonneg (Int.le_of_lt hd) (Int.ediv_nonneg hX (Int.le_of_lt hd))
  omega

theorem fdiv_fmod_spec (x : Int) {y : Int} (hy : y ≠ 0) :
    x.fmod y + y * x.fdiv y = x ∧ ((0 ≤ x.fmod y ∧ x.fmod y < y) ∨ (y < x.fmod y ∧ x.fmod y ≤ 0)) := by
  rcases Int.lt_or_gt_of_ne hy with h | h
  · have := (Int.fdiv_fmod_unique' (a := x) h).mp ⟨rfl, rfl⟩; omega
  · have := (Int.fdiv_fmod_unique (a := x) h).mp ⟨rfl, rfl⟩; omega

theorem fdiv_fmod_eq {x y q r : Int} (h : r + y * q = x) (hr : (0 ≤ r ∧ r < y) ∨ (y < r ∧ r ≤ 0)) :
    (x.fdiv y, x.fmod y) = (q, r) := by
  rcases hr with hr | hr
  · exact Prod.ext_iff.mpr ((Int.fdiv_fmod_unique (by omega)).mpr ⟨h, hr⟩)
  · exact Prod.ext_iff.mpr ((Int.fdiv_fmod_unique' (by omega)).mpr ⟨h, hr⟩)

theorem fdiv_fmod_neg (x : Int) {y : Int} (hy : y < 0) : x.fdiv y = (-x) / (-y) ∧ x.fmod y = -((-x) % (-y)) := by
  rw [← Int.fdiv_eq_ediv_of_nonneg _ (by omega), ← Int.fmod_eq_emod_of_nonneg _ (by omega), Int.neg_fdiv_neg, Int.neg_fmod_neg,
    Int.neg_neg]
  exact ⟨rfl, rfl⟩

/-- why `2·quot + 1` in `checked_div_rounded` does not overflow -/
theorem natAbs_two_fdiv_add_one_le {a b : Int} (hb : b ≠ 0) (h : a.fmod b ≠ 0) : (2 * a.fdiv b + 1).natAbs ≤ a.natAbs := by
  obtain ⟨e, hr⟩ := fdiv_fmod_spec a hb
  -- `|b| ≥ 2`, and the exact quotient lies strictly between `q` and `q + 1`
  have e' : b * (a.fdiv b + 1) = b * a.fdiv b + b := by rw [Int.mul_add, Int.mul_one]
  rcases hr with hr | hr <;> by_cases hq : 0 ≤ a.fdiv b
  · have := Int.mul_le_mul_of_nonneg_right (show 2 ≤ b by omega) hq; omega
  · have := Int.mul_le_mul_of_nonpos_right (show 2 ≤ b by omega) (show a.fdiv b + 1 ≤ 0 by omega); omega
  · have := Int.mul_le_mul_of_nonneg_right (show b ≤ -2 by omega) hq; omega
  · have := Int.mul_le_mul_of_nonpos_right (show b ≤ -2 by omega) (show a.fdiv b + 1 ≤ 0 by omega); omega

/-- the adjustment by which `i128_div_mod_floor` turns Rust's truncating `/`, `%` into floor division -/
theorem fdiv_fmod_of_trunc (x : Int) {y : Int} (hy : y ≠ 0) :
    (if (x.tmod y > 0 ∧ y < 0) ∨ (x.tmod y < 0 ∧ y > 0) then (x.tdiv y - 1, x.tmod y + y) else (x.tdiv y, x.tmod y)) =
      (x.fdiv y, x.fmod y) := by
  have h := Int.mul_tdiv_add_tmod x y
  have e : y * (x.tdiv y - 1) = y * x.tdiv y - y := by rw [Int.mul_sub, Int.mul_one]
  rcases Int.lt_or_gt_of_ne hy with hs | hs
  · have h1 := Int.tmod_lt_of_pos x (show 0 < -y by omega)
    have h2 := Int.lt_tmod_of_pos x (show 0 < -y by omega)
    rw [Int.tmod_neg] at h1 h2
    split <;> exact (fdiv_fmod_eq (by omega) (by omega)).symm
  · have h1 := Int.tmod_lt_of_pos x hs
    have h2 := Int.lt_tmod_of_pos x hs
    split <;> exact (fdiv_fmod_eq (by omega) (by omega)).symm

theorem floor_of_tdiv (x : Int) {y : Int} (hy : 0 < y) :
    x / y = (if x.tmod y < 0 then x.tdiv y - 1 else x.tdiv y) := by
  have e := fdiv_fmod_of_trunc x (Int.ne_of_gt hy)
  rw [← Int.fdiv_eq_ediv_of_nonneg x (Int.le_of_lt hy)]
  split at e <;> split <;> first | exact (Prod.mk.inj e).1.symm | omega

theorem ceil_of_tdiv (x : Int) {y : Int} (hy : 0 < y) :
    -((-x) / y) = (if 0 < x.tmod y then x.tdiv y + 1 else x.tdiv y) := by
  rw [floor_of_tdiv (-x) hy, Int.neg_tmod, Int.neg_tdiv]
  split <;> split <;> omega

theorem ediv_fits {x y : Int} (hx : fitsI128 x = true) (hy : 0 < y) : fitsI128 (x / y) = true := by
  have := ediv_bounds x hy
  rw [fitsI128_iff] at *; unfold I128_MIN I128_MAX at *; omega

theorem tdiv_fits (x y : Int) (hx : fitsI128 x = true) (hy : y ≠ 0) (hm : ¬ (x = I128_MIN ∧ y = -1)) :
    fitsI128 (x.tdiv y) = true := by
  rw [fitsI128_iff] at hx ⊢
  by_cases h1 : y = 1
  · rw [h1, Int.tdiv_one]; exact hx
  by_cases h2 : y = -1
  · rw [h2, Int.tdiv_neg, Int.tdiv_one]
    unfold I128_MIN I128_MAX at *
    omega
  · -- `|x / y| ≤ |x| / 2`
    have hq : (x.tdiv y).natAbs ≤ x.natAbs / 2 :=
      Int.natAbs_tdiv x y ▸ Nat.div_le_div_left (show 2 ≤ y.natAbs by omega) (by decide)
    unfold I128_MIN I128_MAX at *
    omega

theorem fdiv_fmod_fits {x y : Int} (hx : fitsI128 x = true) (hy : fitsI128 y = true) (hy0 : y ≠ 0)
    (hc : ¬ (x = I128_MIN ∧ y = -1)) : fitsI128 (x.fdiv y) = true ∧ fitsI128 (x.fmod y) = true := by
  have hq := Int.natAbs_fdiv_le_natAbs x y
  obtain ⟨h, hr⟩ := fdiv_fmod_spec x hy0
  simp only [fitsI128_iff] at *
  unfold I128_MIN I128_MAX at *
  refine ⟨⟨by omega, ?_⟩, by omega⟩
  -- the quotient `2^127` would need the dividend `-2^127` and, its remainder lying between zero and the divisor, the divisor `-1`
  refine Int.not_lt.mp fun hcon => ?_
  have hq' : x.fdiv y = 170141183460469231731687303715884105728 := by omega
  rw [hq'] at h
  omega

theorem divI128_eq {x y : Int} (hy : y ≠ 0) (h : x ≠ I128_MIN ∨ y ≠ -1) : divI128 x y = .ok (x.tdiv y) := by
  unfold divI128
  rw [if_neg hy, if_neg (fun hh => h.elim (· hh.1) (· hh.2))]

theorem remI128_eq {x y : Int} (hy : y ≠ 0) (h : x ≠ I128_MIN ∨ y ≠ -1) : remI128 x y = .ok (x.tmod y) := by
  unfold remI128
  rw [if_neg hy, if_neg (fun hh => h.elim (· hh.1) (· hh.2))]

theorem divI128_pos (x y : Int) (hy : 0 < y) : divI128 x y = .ok (x.tdiv y) := divI128_eq (by omega) (.inr (by omega))

theorem remI128_pos (x y : Int) (hy : 0 < y) : remI128 x y = .ok (x.tmod y) := remI128_eq (by omega) (.inr (by omega))

theorem divI128_exact (x g : Int) (hg : 0 < g) (hd : g ∣ x) : divI128 x g = .ok (x / g) := by
  rw [divI128_pos x g hg, Int.tdiv_eq_ediv_of_dvd hd]

theorem wrappingRemI128_ok {x y : Int} (hy : y ≠ 0) : wrappingRemI128 x y = .ok (x.tmod y) := by
  unfold wrappingRemI128
  rw [if_neg hy]

/-- `fract`, inside the table of powers of ten -/
theorem fract_eq (x : Dec) (h : x.nfrac ≤ 38) :
    fract x = .ok (if x.nfrac = 0 then Dec.ZERO else ⟨x.coeff.tmod ((10 : Int) ^ x.nfrac), x.nfrac⟩) := by
  unfold fract
  split
  · next h0 => rw [if_pos h0]
  · next hn => rw [tenPow_ok _ h, Outcome.bind_ok, remI128_pos _ _ (pow10_pos _), if_neg hn]; rfl

end Fpdec
