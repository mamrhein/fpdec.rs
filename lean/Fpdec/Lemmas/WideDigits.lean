import Fpdec.Lemmas.Rounding
import Mathlib.Tactic.Ring

/-!
# Two-digit arithmetic, base `2^64`, for the 256-bit helpers (C16)

When a `plainU128` operation on digits cannot overflow (`mac_lt`, `lt_base2`), the carries of the schoolbook product
(`mul_carries`), and the one step of schoolbook division (`div_step`) that `u256_idiv_u64`, `u256_idiv_u128` and the Knuth step
all iterate.
-/

namespace Fpdec.Wide
open Fpdec Fpdec.Model

theorem U64_MOD_pos : 0 < U64_MOD := by decide
theorem U128_eq : U128_MOD = U64_MOD * U64_MOD := by decide
theorem U128_pow : U128_MOD = 2 ^ 128 := by decide

theorem u128Hi_eq (u : Nat) : u128Hi u = u / U64_MOD := Nat.shiftRight_eq_div_pow u 64

theorem u128Lo_eq (u : Nat) : u128Lo u = u % U64_MOD := Nat.and_two_pow_sub_one_eq_mod u 64

theorem shl64_eq (x : Nat) : x <<< 64 = x * U64_MOD := Nat.shiftLeft_eq x 64

theorem wrapU128_eq (v : Nat) : wrapU128 v = v % U128_MOD := rfl

theorem wrapU128_lt (x : Nat) : wrapU128 x < U128_MOD := Nat.mod_lt _ (by decide)

theorem hi_lt {t : Nat} (h : t < U128_MOD) : t / U64_MOD < U64_MOD := by
  rw [Nat.div_lt_iff_lt_mul U64_MOD_pos, ← U128_eq]; exact h

theorem lo_lt {t : Nat} : t % U64_MOD < U64_MOD := Nat.mod_lt _ U64_MOD_pos

theorem words_eq {M h l n : Nat} (e : h * M + l = n) (hl : l < M) : n / M = h ∧ n % M = l :=
  (Nat.div_mod_unique (Nat.zero_lt_of_lt hl)).mpr ⟨by rw [Nat.add_comm, Nat.mul_comm]; exact e, hl⟩

theorem lt_base2 {a b : Nat} (ha : a < U64_MOD) (hb : b < U64_MOD) : a * U64_MOD + b < U128_MOD := by
  unfold U64_MOD U128_MOD at *; omega

theorem mac_lt {B a b c d : Nat} (ha : a < B) (hb : b < B) (hc : c < B) (hd : d < B) : a * b + c + d < B * B := by
  obtain ⟨k, rfl⟩ : ∃ k, B = k + 1 := ⟨B - 1, by omega⟩
  have h : a * b ≤ k * k := Nat.mul_le_mul (by omega) (by omega)
  have e : (k + 1) * (k + 1) = k * k + 2 * k + 1 := by ring
  omega

theorem mac_lt_U128 {a b c d : Nat} (ha : a < U64_MOD) (hb : b < U64_MOD) (hc : c < U64_MOD) (hd : d < U64_MOD) :
    a * b + c + d < U128_MOD :=
  U128_eq ▸ mac_lt ha hb hc hd

theorem mul_add_lt_U128 {a b c : Nat} (ha : a < U64_MOD) (hb : b < U64_MOD) (hc : c < U64_MOD) : a * b + c < U128_MOD :=
  mac_lt_U128 ha hb hc U64_MOD_pos

theorem mul_lt_U128 {a b : Nat} (ha : a < U64_MOD) (hb : b < U64_MOD) : a * b < U128_MOD :=
  mul_add_lt_U128 ha hb U64_MOD_pos

/-- schoolbook product of two 2-digit numbers from the digit products `a` (low), `b`, `c` (middle), `d` (high), the carries taken
    in the order of `u128_mul_u128` -/
theorem mul_carries (B a b c d : Nat) :
    ((b + a / B) / B + (d + (c + (b + a / B) % B) / B)) * (B * B) + (a % B + (c + (b + a / B) % B) % B * B) =
      d * (B * B) + (b + c) * B + a := by
  have hs := Nat.div_add_mod (c + (b + a / B) % B) B
  have ht := Nat.div_add_mod (b + a / B) B
  have ha := Nat.div_add_mod a B
  generalize (c + (b + a / B) % B) / B = s1 at *
  generalize (c + (b + a / B) % B) % B = s0 at *
  generalize (b + a / B) / B = t1 at *
  generalize (b + a / B) % B = t0 at *
  generalize a / B = a1 at *
  generalize a % B = a0 at *
  subst ha
  -- `t0·B` on both sides: the middle carry enters `ht` on the right and `hs` on the left
  apply Nat.add_right_cancel (m := t0 * B)
  calc _ = d * (B * B) + (B * t1 + t0) * B + (B * s1 + s0) * B + a0 := by ring
    _ = d * (B * B) + (b + a1) * B + (c + t0) * B + a0 := by rw [ht, hs]
    _ = _ := by ring

/-- a `u128` assembled from two digits (`hi << 64` drops nothing) -/
theorem plainU128_hiLo (prof : Profile) {a b : Nat} (ha : a < U64_MOD) (hb : b < U64_MOD) :
    plainU128 prof ↑(a * U64_MOD % U128_MOD + b) = .ok (a * U64_MOD + b) := by
  have h := lt_base2 ha hb
  rw [Nat.mod_eq_of_lt (Nat.lt_of_le_of_lt (Nat.le_add_right _ _) h), plainU128_nat prof h]

variable {B y x1 x32 : Nat}

theorem digit_lt_base (hx : x32 < y) (hx1 : x1 < B) : (x32 * B + x1) / y < B := by
  rw [Nat.div_lt_iff_lt_mul (by omega)]
  have h2 : B * (x32 + 1) ≤ B * y := Nat.mul_le_mul_left B hx
  rw [Nat.mul_add, Nat.mul_one, Nat.mul_comm] at h2
  omega

theorem div_step (B y h l : Nat) (hy : 0 < y) :
    (h * B + l) / y = h / y * B + (h % y * B + l) / y ∧ (h * B + l) % y = (h % y * B + l) % y := by
  have e : h * B + l = (h % y * B + l) + y * (h / y * B) := by
    conv_lhs => rw [← Nat.div_add_mod h y]
    ring
  rw [e, Nat.add_mul_div_left _ _ hy, Nat.add_mul_mod_self_left]
  exact ⟨Nat.add_comm _ _, rfl⟩

/-- the three wrapping operations of a Knuth step compute the true partial remainder of `u = a + b` from its quotient digit -/
theorem wrap_sub_mod (a b y : Nat) (h : (a + b) % y < U128_MOD) :
    wrapU128 (wrapU128 (wrapU128 a + b) + U128_MOD - wrapU128 ((a + b) / y * y)) = (a + b) % y := by
  have e := Nat.div_add_mod' (a + b) y
  generalize (a + b) / y * y = c at *
  generalize (a + b) % y = t at *
  unfold wrapU128 U128_MOD at *
  omega

end Fpdec.Wide
