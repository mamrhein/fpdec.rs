import Fpdec.Lemmas.ParseStr

/-!
# `from_str` against `parseSpec`: what agreement means, the exponent part and the final range checks

`resOf` is what the grammar can tell about a result and `agree` the relation every stage is proved to keep; `fTail` is `from_str`
after `str_to_dec`, so the stages compared are `fTail ∘ mTail ∘ mExp` of the model and `sRest ∘ sExp` of the grammar.
-/

namespace Fpdec.ParseAux
open Fpdec Fpdec.Model

/-- what the reference grammar can tell about a result of `from_str`: everything but the kind of a non-`Empty` error -/
def resOf : Except ParseErr Dec → Spec.ParseRes
  | .ok d => .ok d.coeff d.nfrac
  | .error .empty => .empty
  | .error _ => .bad

def agree (r : Spec.ParseRes) (o : Outcome (Except ParseErr Dec)) : Prop := ∃ x, o = .ok x ∧ resOf x = r

theorem agree_bad (e : ParseErr) (h : e ≠ .empty) : agree .bad (.ok (.error e)) :=
  ⟨_, rfl, by cases e <;> first | rfl | exact absurd rfl h⟩
theorem agree_ok (c : Int) (p : Nat) : agree (.ok c p) (.ok (.ok ⟨c, p⟩)) := ⟨_, rfl, rfl⟩

theorem resOf_eq_ok {x : Except ParseErr Dec} {d : Dec} : resOf x = .ok d.coeff d.nfrac ↔ x = .ok d := by
  cases x with
  | ok d' => cases d; cases d'; simp [resOf]
  | error e => cases e <;> simp [resOf]

theorem resOf_eq_empty {x : Except ParseErr Dec} : resOf x = .empty ↔ x = .error .empty := by
  cases x with
  | ok d' => simp [resOf]
  | error e => cases e <;> simp [resOf]

theorem resOf_error {x : Except ParseErr Dec} : (resOf x = .bad ∨ resOf x = .empty) ↔ ∃ e, x = .error e := by
  cases x with
  | ok d' => simp [resOf]
  | error e => cases e <;> simp [resOf]

/-- `resOf` identifies results only in the kind of a non-`Empty` error -/
theorem resOf_eq_cases {x y : Except ParseErr Dec} (h : resOf x = resOf y) :
    (∃ d, x = .ok d ∧ y = .ok d) ∨ (∃ e e', x = .error e ∧ y = .error e') := by
  cases x with
  | ok d => exact .inl ⟨d, rfl, resOf_eq_ok.mp h.symm⟩
  | error e =>
    cases y with
    | ok d => cases (resOf_eq_ok (d := d)).mp h
    | error e' => exact .inr ⟨e, e', rfl, rfl⟩

/-- the part of `from_str` after `str_to_dec` -/
def fTail (prof : Profile) (r : Outcome (Except ParseErr (Int × Int))) : Outcome (Except ParseErr Dec) :=
  match r with
  | .panic k => .panic k
  | .ok (.error e) => .ok (.error e)
  | .ok (.ok (coeff, exponent)) =>
    match IntTy.isize.plain prof (-exponent) with
    | .panic k => .panic k
    | .ok nexp =>
      if nexp > Gen.MAX_N_FRAC_DIGITS then .ok (.error .fracLimit)
      else if exponent > Gen.FROM_STR_MAX_EXP then
        if coeff = 0 then .ok (.ok Dec.ZERO) else .ok (.error .overflow)
      else if exponent < 0 then .ok (.ok ⟨coeff, (IntTy.u8.cast nexp).toNat⟩)
      else
        match checkedMulPowTen coeff (IntTy.u8.cast exponent).toNat with
        | none => .ok (.error .overflow)
        | some c => .ok (.ok ⟨c, 0⟩)

theorem fromStr_eq (prof : Profile) (lit : List Nat) : fromStr prof lit = fTail prof (strToDec prof lit) := rfl

theorem m18 : ((Gen.MAX_N_FRAC_DIGITS : Nat) : Int) = 18 := rfl
theorem m38 : ((Gen.FROM_STR_MAX_EXP : Nat) : Int) = 38 := rfl

theorem fTail_err (prof : Profile) (e : ParseErr) : fTail prof (.ok (.error e)) = .ok (.error e) := rfl

theorem mTail_nil (prof : Profile) (neg : Bool) (D f : Nat) (E : Int)
    (h0 : -9223372036854775807 ≤ E - f) (h1 : E - f ≤ 9223372036854775807) (hD : (D : Int) ≤ I128_MAX) :
    mTail prof neg D f (.ok (.ok (E, []))) =
      if -(E - f) > 18 then .ok (.error .fracLimit) else .ok (.ok (sgn neg D, E - f)) := by
  have hD0 := Int.natCast_nonneg D
  rw [mTail_ok, if_neg (by decide), isize_plain_ok prof (Int.le_trans (by decide) h0) h1, Outcome.bind_ok,
    isize_plain_ok prof (Int.le_trans (by decide) (Int.neg_le_neg h1)) (Int.neg_le_of_neg_le h0), Outcome.bind_ok, m18,
    i128_cast_id (Int.le_trans (by decide) hD0) hD]
  congr 1
  cases neg
  · rfl
  · rw [if_pos rfl, negI128, plainI128_ok prof ((fitsI128_iff _).mpr
      ⟨Int.le_trans (by decide) (Int.neg_le_neg hD), Int.le_trans (Int.neg_nonpos_of_nonneg hD0) (by decide)⟩)]
    rfl

theorem fTail_ok (prof : Profile) (c x : Int) (h1 : ¬ -x > 18) (h2 : x ≤ 9223372036854775807) :
    fTail prof (.ok (.ok (c, x))) =
      if x > 38 then (if c = 0 then .ok (.ok Dec.ZERO) else .ok (.error .overflow))
      else if x < 0 then .ok (.ok ⟨c, (-x).toNat⟩)
      else match checkedI128 (c * 10 ^ x.toNat) with
        | none => .ok (.error .overflow)
        | some c => .ok (.ok ⟨c, 0⟩) := by
  have h18 : -x ≤ 18 := Int.not_lt.mp h1
  unfold fTail
  simp only
  rw [isize_plain_ok prof (Int.le_trans (by decide) (Int.neg_le_neg h2)) (Int.le_trans h18 (by decide))]
  by_cases h38 : x > 38
  · simp only [m18, m38, h1, h38, if_true, if_false]
  · by_cases hneg : x < 0
    · simp only [m18, m38, h1, h38, hneg, if_true, if_false]
      rw [u8_cast_id (Int.neg_nonneg_of_nonpos (Int.le_of_lt hneg)) (Int.le_trans h18 (by decide))]
    · simp only [m18, m38, h1, h38, hneg, if_false]
      rw [u8_cast_id (Int.not_lt.mp hneg) (Int.le_trans (Int.not_lt.mp h38) (by decide)),
        checkedMulPowTen_eq _ _ (Int.toNat_le.mpr (Int.not_lt.mp h38))]

/-- `h` sets aside the one magnitude that is an `i128` with a minus sign only -/
theorem checkedI128_sgn (neg : Bool) (C : Nat) (h : (C : Int) ≠ 2 ^ 127) :
    checkedI128 (sgn neg C) = if (C : Int) ≤ 2 ^ 127 - 1 then some (sgn neg C) else none := by
  rw [pow2_127] at h ⊢
  unfold checkedI128
  congr 1
  rw [fitsI128_iff]
  unfold I128_MIN I128_MAX
  cases neg
  · rw [sgn_false]; apply propext; omega
  · rw [sgn_true]; apply propext; omega

theorem not_pow127 (D k : Nat) (hD : (D : Int) ≤ I128_MAX) : ((D * 10 ^ k : Nat) : Int) ≠ 2 ^ 127 := by
  rw [pow2_127]
  unfold I128_MAX at hD
  cases k with
  | zero => omega
  | succ k => rw [Nat.pow_succ, ← Nat.mul_assoc]; omega

/-- the exponent the model works with against the true one: in range, and the same unless both lie beyond `EXP_LIMIT` on the same
    side -/
def expRel (E e : Int) : Prop :=
  -(10 * EXP_LIMIT + 9) ≤ E ∧ E ≤ 10 * EXP_LIMIT + 9 ∧
    (E = e ∨ (EXP_LIMIT ≤ E ∧ EXP_LIMIT ≤ e) ∨ (E ≤ -EXP_LIMIT ∧ e ≤ -EXP_LIMIT))

theorem final_agree (prof : Profile) (neg : Bool) (D f : Nat) (E e : Int)
    (hD : (D : Int) ≤ I128_MAX) (hf : f < 2 ^ 56) (hrel : expRel E e) :
    agree (sFinal neg D f e) (fTail prof (mTail prof neg D f (.ok (.ok (E, []))))) := by
  have hl := expLimit_eq
  obtain ⟨hE1, hE2, hc⟩ := hrel
  have hf' : f < 72057594037927936 := hf
  have hr : -9223372036854775807 ≤ E - f ∧ E - f ≤ 9223372036854775807 := by omega
  rw [mTail_nil prof neg D f E hr.1 hr.2 hD]
  -- `f < 2^56 < EXP_LIMIT - 38`: a saturated exponent is beyond the thresholds whatever the number of fraction digits
  have key : (-(E - f) > 18 ∧ ¬ e ≥ f ∧ f - e > 18) ∨
      (¬ -(E - f) > 18 ∧ E - f > 38 ∧ e ≥ f ∧ e - f > 38) ∨
      (¬ -(E - f) > 18 ∧ ¬ E - f > 38 ∧ E = e) := by
    rcases hc with rfl | h | h
    · by_cases h18 : -(E - f) > 18
      · exact .inl ⟨h18, by omega, Int.neg_sub E f ▸ h18⟩
      · by_cases h38 : E - f > 38
        · exact .inr (.inl ⟨h18, h38, by omega, h38⟩)
        · exact .inr (.inr ⟨h18, h38, rfl⟩)
    · exact .inr (.inl (by omega))
    · exact .inl (by omega)
  clear hc hE1 hE2 hl hf hf'
  rcases key with ⟨h1, h2, h3⟩ | ⟨h1, h2, h4, h5⟩ | ⟨h1, h2, rfl⟩
  · rw [if_pos h1, fTail_err, sFinal, if_neg h2, if_pos h3]
    exact agree_bad _ (by decide)
  · rw [if_neg h1, fTail_ok prof _ _ h1 hr.2, if_pos h2, sFinal, if_pos h4]
    by_cases hD0 : D = 0
    · rw [if_pos hD0, if_pos (sgn_natCast_eq_zero.mpr hD0)]
      exact agree_ok 0 0
    · rw [if_neg hD0, if_pos h5, if_neg (mt sgn_natCast_eq_zero.mp hD0)]
      exact agree_bad _ (by decide)
  · rw [if_neg h1, fTail_ok prof _ _ h1 (Int.le_trans (Int.not_lt.mp h2) (by decide)), if_neg h2, sFinal]
    by_cases hneg : E - f < 0
    · rw [if_pos hneg, if_neg (Int.not_le.mpr (Int.lt_of_sub_neg hneg)), ← Int.neg_sub E f, if_neg h1,
        if_pos (by rw [pow2_127]; exact hD)]
      exact agree_ok _ _
    · rw [if_neg hneg, if_pos (Int.sub_nonneg.mp (Int.not_lt.mp hneg)), if_neg h2, sgn_mul, show (D : Int) * 10 ^ (E - f).toNat = (D * 10 ^ (E - f).toNat : Nat) by simp,
        checkedI128_sgn neg _ (not_pow127 D _ hD)]
      by_cases hD0 : D = 0
      · subst hD0
        rw [if_pos rfl, Nat.zero_mul, if_pos (by decide), Int.natCast_zero, sgn_eq_zero.mpr rfl]
        exact agree_ok 0 0
      · rw [if_neg hD0]
        split
        · exact agree_ok _ _
        · exact agree_bad _ (by decide)

theorem rest_agree (prof : Profile) (neg : Bool) (D f : Nat) (s : List Nat) (hb : ∀ x ∈ s, x < 256)
    (hD : (D : Int) ≤ I128_MAX) (hf : f < 2 ^ 56) :
    agree (sRest neg D f (sExp s)) (fTail prof (mTail prof neg D f (mExp prof s))) := by
  cases s with
  | nil => exact final_agree prof neg D f 0 0 hD hf ⟨by decide, by decide, Or.inl rfl⟩
  | cons c rest =>
    simp only [sExp, mExp]
    by_cases hc : c = 101 ∨ c = 69
    · rw [if_pos hc, if_pos hc]
      cases rest with
      | nil => exact agree_bad .invalid (by decide)
      | cons c' r' =>
        rw [takeSign_cons]
        obtain ⟨E, h1, h2, h3, h4⟩ := accumExp_spec (Spec.optSign (c' :: r')).2
          (fun x hx => hb x (List.mem_cons_of_mem c ((optSign_suffix _).subset hx))) 0 0 (Int.le_refl 0) (by decide) (Or.inl rfl)
        have hlen := span_length (Spec.optSign (c' :: r')).2
        generalize Spec.optSign (c' :: r') = sg at h1 h4 hlen ⊢
        obtain ⟨eneg, t⟩ := sg
        simp only at h1 h4 hlen ⊢
        have hE : (if eneg = true then IntTy.isize.plain prof (-E) else Outcome.ok E) = .ok (sgn eneg E) := by
          cases eneg
          · rfl
          · exact isize_plain_ok prof (Int.le_trans (by decide) (Int.neg_le_neg h3)) (Int.le_trans (Int.neg_nonpos_of_nonneg h2) (by decide))
        have hnone : t.length - (Spec.spanDigits t).2.length = 0 ↔ (Spec.spanDigits t).1.isEmpty = true := by
          rw [List.isEmpty_iff_length_eq_zero]; omega
        rw [h1, hE]
        simp only
        by_cases hemp : (Spec.spanDigits t).1.isEmpty = true
        · rw [if_pos hemp, if_pos (hnone.mpr hemp)]
          exact agree_bad .invalid (by decide)
        · rw [if_neg hemp, if_neg (mt hnone.mp hemp)]
          have hrel : expRel (sgn eneg E) (sgn eneg (Spec.digitsVal (Spec.spanDigits t).1)) := by
            have h4' : E = (Spec.digitsVal (Spec.spanDigits t).1 : Nat) ∨
              EXP_LIMIT ≤ E ∧ EXP_LIMIT ≤ ((Spec.digitsVal (Spec.spanDigits t).1 : Nat) : Int) := h4
            cases eneg
            · exact ⟨Int.le_trans (by decide) h2, h3, h4'.imp_right Or.inl⟩
            · exact ⟨Int.neg_le_neg h3, Int.le_trans (Int.neg_nonpos_of_nonneg h2) (by decide), h4'.elim (fun h => Or.inl (congrArg Neg.neg h))
                fun h => Or.inr (Or.inr ⟨Int.neg_le_neg h.1, Int.neg_le_neg h.2⟩)⟩
          cases (Spec.spanDigits t).2 with
          | nil => exact final_agree prof neg D f _ _ hD hf hrel
          | cons a b => exact agree_bad .invalid (by decide)
    · rw [if_neg hc, if_neg hc]
      exact agree_bad .invalid (by decide)

end Fpdec.ParseAux
