import Fpdec.Lemmas.Dom
import Fpdec.Lemmas.IntTy
import Fpdec.Lemmas.TruncDiv

/-!
# The integer rounding kernel: `i128_div_mod_floor`, `round_quot`, `i128_div_rounded`

`i128_div_mod_floor` is floor division (`Int.fdiv`, `Int.fmod`) and `i128_div_rounded` is `Spec.specRoundQ`, in every build profile,
on every pair of i128 operands with a non-zero divisor except `(i128::MIN, -1)`, on which Rust's `/` panics.  The core is
`roundQuot_eq`: `round_quot` applied to a floor quotient and its remainder is `Spec.specRound`, for all eight modes.
-/

namespace Fpdec
open Fpdec.Model

theorem i128DivModFloor_eq (prof : Profile) (x y : Int) (hx : fitsI128 x = true) (hy : fitsI128 y = true) (hy0 : y ≠ 0)
    (hc : ¬ (x = I128_MIN ∧ y = -1)) : i128DivModFloor prof x y = .ok (x.fdiv y, x.fmod y) := by
  obtain ⟨fq, fr⟩ := fdiv_fmod_fits hx hy hy0 hc
  have e := fdiv_fmod_of_trunc x hy0
  unfold i128DivModFloor divI128 remI128
  simp only [hy0, hc, if_false, Outcome.bind_ok]
  split <;> rename_i hadj <;> simp only [hadj, if_true, if_false, Prod.mk.injEq] at e
  · rw [e.1, e.2, plainI128_ok prof fq, plainI128_ok prof fr]; rfl
  · rw [e.1, e.2]; rfl

theorem i128DivModFloor_pos (prof : Profile) (x y : Int) (hx : fitsI128 x = true) (hy0 : 0 < y)
    (hy : y ≤ I128_MAX) : i128DivModFloor prof x y = .ok (x / y, x % y) := by
  rw [i128DivModFloor_eq prof x y hx (by rw [fitsI128_iff]; unfold I128_MIN; omega) (by omega) (by omega),
    Int.fdiv_eq_ediv_of_nonneg _ (by omega), Int.fmod_eq_emod_of_nonneg _ (by omega)]

theorem i128DivModFloor_neg_full (prof : Profile) (x y : Int) (hx : I128_MIN ≤ x ∧ x ≤ I128_MAX) (hy0 : y < 0)
    (hy : I128_MIN ≤ y) (hc : ¬ (x = I128_MIN ∧ y = -1)) :
    i128DivModFloor prof x y = .ok ((-x) / (-y), -((-x) % (-y))) := by
  rw [i128DivModFloor_eq prof x y ((fitsI128_iff x).mpr hx) (by rw [fitsI128_iff]; unfold I128_MAX; omega) (by omega) hc,
    (fdiv_fmod_neg x hy0).1, (fdiv_fmod_neg x hy0).2]

theorem i128DivModFloor_neg (prof : Profile) (x y : Int) (hx : I128_MIN < x ∧ x ≤ I128_MAX) (hy0 : y < 0)
    (hy : I128_MIN < y) : i128DivModFloor prof x y = .ok ((-x) / (-y), -((-x) % (-y))) :=
  i128DivModFloor_neg_full prof x y ⟨Int.le_of_lt hx.1, hx.2⟩ hy0 (Int.le_of_lt hy) (by omega)

/-- `i128_div_mod_floor(x, i128::MIN)`: the quotient is `-1` for a positive and `0` for a non-positive dividend -/
theorem i128DivModFloor_min (prof : Profile) (x : Int) (hx : I128_MIN < x ∧ x ≤ I128_MAX) :
    i128DivModFloor prof x I128_MIN =
      .ok ((-x) / 170141183460469231731687303715884105728, -((-x) % 170141183460469231731687303715884105728)) :=
  i128DivModFloor_neg_full prof x I128_MIN ⟨Int.le_of_lt hx.1, hx.2⟩ (by decide) (Int.le_refl _) (by omega)

theorem i128DivModFloor_minx (prof : Profile) (y : Int) (hy0 : y < 0) (hy1 : y ≠ -1) :
    i128DivModFloor prof I128_MIN y = .ok ((-I128_MIN) / (-y), -((-I128_MIN) % (-y))) := by
  -- no bound on `y`: the remainder of a negative dividend is `≤ 0`, so nothing is adjusted and nothing can overflow
  have hne : y ≠ 0 := by omega
  have hr : I128_MIN.tmod y ≤ 0 := by
    have := Int.tmod_nonneg (a := -I128_MIN) y (by decide); rw [Int.neg_tmod] at this; omega
  have hadj : ¬ ((I128_MIN.tmod y > 0 ∧ y < 0) ∨ (I128_MIN.tmod y < 0 ∧ y > 0)) := by omega
  have e := fdiv_fmod_of_trunc I128_MIN hne
  rw [if_neg hadj, (fdiv_fmod_neg _ hy0).1, (fdiv_fmod_neg _ hy0).2] at e
  unfold i128DivModFloor divI128 remI128
  simp only [hne, hy1, and_false, if_false, Outcome.bind_ok, hadj, Outcome.pure_eq, e]

theorem i128DivModFloor_min_neg_one (prof : Profile) : i128DivModFloor prof I128_MIN (-1) = .panic .arith := by
  unfold i128DivModFloor divI128
  simp

theorem specRoundQ_pos (m : Mode) (n : Int) {d : Int} (hd : 0 < d) : Spec.specRoundQ m n d = Spec.specRound m n d :=
  if_neg (by omega)

theorem specRoundQ_neg (m : Mode) (n : Int) {d : Int} (hd : d < 0) : Spec.specRoundQ m n d = Spec.specRound m (-n) (-d) :=
  if_pos hd

theorem specRound_congr (m : Mode) (n d n' d' : Int)
    (hfl : n / d = n' / d') (hz : n % d = 0 ↔ n' % d' = 0) (hs : n ≥ 0 ↔ n' ≥ 0)
    (hlt : 2 * (n % d) < d ↔ 2 * (n' % d') < d') (hgt : 2 * (n % d) > d ↔ 2 * (n' % d') > d') :
    Spec.specRound m n d = Spec.specRound m n' d' := by
  unfold Spec.specRound
  simp only [hfl, hz, hs, hlt, hgt]

theorem specRound_range (m : Mode) (n d : Int) :
    n / d ≤ Spec.specRound m n d ∧ Spec.specRound m n d ≤ n / d + 1 ∧ (n % d = 0 → Spec.specRound m n d = n / d) := by
  unfold Spec.specRound
  dsimp only
  by_cases hr : n % d = 0
  · simp only [hr, if_true]
    exact ⟨Int.le_refl _, by omega, fun _ => trivial⟩
  · simp only [hr, if_false]
    rw [← and_assoc]
    refine ⟨?_, fun h => h.elim⟩
    generalize n / d = fl
    cases m <;> dsimp only <;> (repeat' split) <;> omega

theorem specRound_exact (m : Mode) (N d : Int) (h : N % d = 0) : Spec.specRound m N d = N / d :=
  (specRound_range m N d).2.2 h

theorem specRound_exact_mul (tm : Mode) (k t : Int) (ht : 0 < t) : Spec.specRound tm (k * t) t = k :=
  (specRound_exact tm _ _ (Int.mul_emod_left k t)).trans (Int.mul_ediv_cancel k (Int.ne_of_gt ht))

theorem specRoundQ_exact_mul (tm : Mode) (k d : Int) (hd : d ≠ 0) : Spec.specRoundQ tm (k * d) d = k := by
  rcases Int.lt_or_gt_of_ne hd with h | h
  · rw [specRoundQ_neg tm _ h, ← Int.mul_neg]
    exact specRound_exact_mul tm k (-d) (by omega)
  · rw [specRoundQ_pos tm _ h]
    exact specRound_exact_mul tm k d h

/-- the clause for `2 ≤ d` is what makes `2^127 / 1` the only rounded quotient of i128 operands that is not an i128 -/
theorem specRound_between (m : Mode) (n d : Int) (hd : 0 < d) :
    (0 ≤ n → 0 ≤ Spec.specRound m n d ∧ Spec.specRound m n d ≤ n ∧ (2 ≤ d → 2 * Spec.specRound m n d ≤ n + 1)) ∧
    (n ≤ 0 → n ≤ Spec.specRound m n d ∧ Spec.specRound m n d ≤ 0) := by
  obtain ⟨r1, r2, r3⟩ := specRound_range m n d
  have h1 := Int.emod_nonneg n (Int.ne_of_gt hd)
  have h2 := Int.emod_lt_of_pos n hd
  have h3 := Int.mul_ediv_add_emod n d
  generalize Spec.specRound m n d = s at *
  obtain ⟨b1, b2⟩ := ediv_bounds n hd
  constructor
  · intro h0
    -- `n = d·q + r ≥ 2q + r` as soon as `d ≥ 2`, which a remainder forces
    have : 2 ≤ d → 2 * (n / d) ≤ d * (n / d) := fun h => Int.mul_le_mul_of_nonneg_right h (b1 h0).1
    have := b1 h0
    omega
  · intro h0
    rcases Int.lt_or_eq_of_le h0 with h | h
    · have := b2 h; omega
    · subst h; simp at r3; omega

theorem specRound_dom (tm : Mode) (a d : Int) (ha : I128_MIN < a ∧ a ≤ I128_MAX) (hd : 0 < d) :
    (I128_MIN < Spec.specRound tm a d ∧ Spec.specRound tm a d ≤ I128_MAX) ∧
    (0 ≤ a → 0 ≤ Spec.specRound tm a d) ∧ (a < 0 → Spec.specRound tm a d ≤ 0) := by
  have := specRound_between tm a d hd
  unfold I128_MIN I128_MAX at *
  omega

theorem specRound_fits (m : Mode) (n d : Int) (hn : fitsI128 n = true) (hd : 0 < d) :
    fitsI128 (Spec.specRound m n d) = true := by
  have := specRound_between m n d hd
  rw [fitsI128_iff] at *; unfold I128_MIN I128_MAX at *; omega

theorem specRoundQ_fits (m : Mode) (n d : Int) (hn : fitsI128 n = true) (hd0 : d ≠ 0) (hc : ¬ (n = I128_MIN ∧ d = -1)) :
    fitsI128 (Spec.specRoundQ m n d) = true := by
  rw [fitsI128_iff] at *
  unfold I128_MIN I128_MAX at *
  rcases Int.lt_or_gt_of_ne hd0 with h | h
  · have := specRound_between m (-n) (-d) (by omega)
    rw [specRoundQ_neg m n h]; omega
  · have := specRound_between m n d h
    rw [specRoundQ_pos m n h]; omega

theorem roundQuot_getD (tm : Mode) (q : Int) (r d : Nat) (mode : Option Mode) :
    roundQuot tm q r d mode = roundQuot tm q r d (some (mode.getD tm)) := by
  cases mode <;> rfl

/-- The bound `2^127` on the divisor lets `|i128::MIN|` in and keeps `rem << 1` inside a `u128`.  Quotient, remainder and divisor are
    variables: the callers have them as `toNat`, `unsigned_abs` or `as u128` of something. -/
theorem roundQuot_eq (tm m : Mode) {n d q : Int} {R D : Nat} (hd : 0 < d) (hq : n / d = q) (hR : n % d = R) (hD : d = D)
    (hDu : D ≤ 2 ^ 127) (hf : fitsI128 q = true) :
    roundQuot tm q R D (some m) = checkedI128 (Spec.specRound m n d) := by
  have h2 := Int.emod_lt_of_pos n hd
  have hn : n ≥ 0 ↔ q ≥ 0 := by
    have h3 := Int.mul_ediv_add_emod n d
    rw [hq] at h3
    constructor
    · intro h; exact hq ▸ Int.ediv_nonneg h (Int.le_of_lt hd)
    · intro h
      have : d * q ≥ 0 := Int.mul_nonneg (Int.le_of_lt hd) h
      omega
  -- `rem << 1` does not wrap
  have hw : wrapU128 (R <<< 1) = 2 * R := by
    rw [Nat.shiftLeft_eq, Nat.pow_one, Nat.mul_comm]
    exact Nat.mod_eq_of_lt (by omega)
  unfold roundQuot Spec.specRound
  subst hD
  simp only [hq, hR, hw, hn, tmod_zero_iff, Ne, Int.natCast_eq_zero]
  by_cases hr : R = 0
  · rw [if_pos hr, if_pos hr, checkedI128_some hf]
  · rw [if_neg hr, if_neg hr]
    -- both sides test the sign of the quotient, how `2R` compares with `D`, and the last digit of the quotient: they agree as
    -- propositional formulas in these tests
    have hs : q < 0 ↔ ¬ q ≥ 0 := Int.not_le.symm
    have hg : 2 * (R : Int) > D ↔ 2 * R > D := by omega
    have hl : 2 * (R : Int) < D ↔ 2 * R < D := by omega
    have he : 2 * R = D ↔ ¬ 2 * R > D ∧ ¬ 2 * R < D := by omega
    by_cases s : q ≥ 0 <;> by_cases g : 2 * R > D <;> by_cases l : 2 * R < D <;> cases m <;>
      simp only [hs, hg, hl, he, s, g, l, apply_ite checkedI128, checkedI128_some hf, if_true, if_false, true_and, false_and, and_true,
        and_false, false_or, or_true, or_false, not_true, not_false_iff, ite_not]

theorem roundQuot_spec (tm m : Mode) (n d : Int) (hd : 0 < d) (hdu : d ≤ I128_MAX + 1)
    (hq : fitsI128 (n / d) = true) :
    roundQuot tm (n / d) (n % d).toNat d.toNat (some m) = checkedI128 (Spec.specRound m n d) :=
  roundQuot_eq tm m hd rfl (Int.toNat_of_nonneg (Int.emod_nonneg n (Int.ne_of_gt hd))).symm
    (Int.toNat_of_nonneg (Int.le_of_lt hd)).symm (by unfold I128_MAX at hdu; omega) hq

/-- `round_quot` with the arguments `i128_div_rounded` passes -/
theorem roundQuot_fdiv (tm m : Mode) (n d : Int) (hd0 : d ≠ 0) (hdu : d.natAbs ≤ 2 ^ 127) (hq : fitsI128 (n.fdiv d) = true) :
    roundQuot tm (n.fdiv d) (n.fmod d).natAbs d.natAbs (some m) = checkedI128 (Spec.specRoundQ m n d) := by
  rcases Int.lt_or_gt_of_ne hd0 with h | h
  · obtain ⟨e1, e2⟩ := fdiv_fmod_neg n h
    have := Int.emod_nonneg (-n) (show -d ≠ 0 by omega)
    rw [specRoundQ_neg m n h]
    exact roundQuot_eq tm m (by omega) e1.symm (by omega) (by omega) hdu hq
  · have := Int.emod_nonneg n hd0
    rw [specRoundQ_pos m n h]
    exact roundQuot_eq tm m h (Int.fdiv_eq_ediv_of_nonneg n (Int.le_of_lt h)).symm
      (by rw [Int.fmod_eq_emod_of_nonneg n (Int.le_of_lt h)]; omega) (by omega) hdu hq

/-- `i128_div_rounded(n, d, mode)` is the spec rounding of `n/d` for every pair of i128 operands with a non-zero divisor, `i128::MIN`
    included on either side, except `(i128::MIN, -1)`, whose exact quotient `2^127` is not an i128.  After the D13 repair no operand
    is negated: the floor division by the signed divisor leaves a remainder with the divisor's sign, and `|rem| / |divisor|` is the
    fraction cut off. -/
theorem i128DivRounded_eq (prof : Profile) (tm : Mode) (mode : Option Mode) (n d : Int)
    (hn : fitsI128 n = true) (hd : fitsI128 d = true) (hd0 : d ≠ 0) (hc : ¬ (n = I128_MIN ∧ d = -1)) :
    i128DivRounded prof tm n d mode = .ok (Spec.specRoundQ (mode.getD tm) n d) := by
  unfold i128DivRounded
  rw [i128DivModFloor_eq prof n d hn hd hd0 hc]
  simp only [Outcome.bind_ok]
  rw [roundQuot_getD, roundQuot_fdiv tm _ n d hd0 (by rw [fitsI128_iff] at hd; unfold I128_MIN I128_MAX at hd; omega)
      (fdiv_fmod_fits hn hd hd0 hc).1,
    checkedI128_some (specRoundQ_fits _ n d hn hd0 hc)]
  rfl

theorem i128DivRounded_spec_full (prof : Profile) (tm : Mode) (mode : Option Mode) (n d : Int)
    (hn : I128_MIN ≤ n ∧ n ≤ I128_MAX) (hd : I128_MIN ≤ d ∧ d ≤ I128_MAX) (hd0 : d ≠ 0) (hc : ¬ (n = I128_MIN ∧ d = -1)) :
    i128DivRounded prof tm n d mode = .ok (Spec.specRoundQ (mode.getD tm) n d) :=
  i128DivRounded_eq prof tm mode n d ((fitsI128_iff n).mpr hn) ((fitsI128_iff d).mpr hd) hd0 hc

theorem i128DivRounded_spec (prof : Profile) (tm : Mode) (mode : Option Mode) (n d : Int)
    (hn : I128_MIN < n ∧ n ≤ I128_MAX) (hd : I128_MIN ≤ d ∧ d ≤ I128_MAX) (hd0 : d ≠ 0) :
    i128DivRounded prof tm n d mode = .ok (Spec.specRoundQ (mode.getD tm) n d) :=
  i128DivRounded_spec_full prof tm mode n d ⟨Int.le_of_lt hn.1, hn.2⟩ hd hd0 (by omega)

theorem i128DivRounded_pos (prof : Profile) (tm : Mode) (mode : Option Mode) (n d : Int)
    (hn : fitsI128 n = true) (hd : 0 < d) (hdu : d ≤ I128_MAX) :
    i128DivRounded prof tm n d mode = .ok (Spec.specRound (mode.getD tm) n d) := by
  rw [i128DivRounded_eq prof tm mode n d hn (by rw [fitsI128_iff]; unfold I128_MIN; omega) (by omega) (by omega),
    specRoundQ_pos _ n hd]

theorem i128DivRounded_min (prof : Profile) (tm : Mode) (mode : Option Mode) (n : Int)
    (hn : I128_MIN < n ∧ n ≤ I128_MAX) :
    i128DivRounded prof tm n I128_MIN mode = .ok (Spec.specRoundQ (mode.getD tm) n I128_MIN) :=
  i128DivRounded_spec prof tm mode n I128_MIN hn (by decide) (by decide)

theorem i128DivRounded_minx (prof : Profile) (tm : Mode) (mode : Option Mode) (d : Int)
    (hd : I128_MIN ≤ d ∧ d ≤ I128_MAX) (hd0 : d ≠ 0) (hd1 : d ≠ -1) :
    i128DivRounded prof tm I128_MIN d mode = .ok (Spec.specRoundQ (mode.getD tm) I128_MIN d) :=
  i128DivRounded_spec_full prof tm mode I128_MIN d (by decide) hd hd0 (fun h => hd1 h.2)

theorem i128DivRounded_min_neg_one (prof : Profile) (tm : Mode) (mode : Option Mode) :
    i128DivRounded prof tm I128_MIN (-1) mode = .panic .arith := by
  unfold i128DivRounded
  rw [i128DivModFloor_min_neg_one]
  rfl

/-! ### the quotient of the model's floor divisions fits, whatever the operands

On every path it is a checked 128-bit magnitude or the result of a plain i128 operation. -/

theorem plainI128_fits (prof : Profile) (x : Int) : Post (plainI128 prof x) (fitsI128 · = true) := by
  unfold plainI128
  refine .ite (fun h => .ok h) fun _ => .ite (fun _ => .panic) fun _ => .ok (wrapI128_fits x)

theorem divModFloor_fits (prof : Profile) (x y : Int) (hx : fitsI128 x = true) :
    Post (i128DivModFloor prof x y) (fun qr => fitsI128 qr.1 = true) := by
  have hd : Post (divI128 x y) (fitsI128 · = true) := by
    unfold divI128
    exact .ite (fun _ => .panic) fun hy => .ite (fun _ => .panic) fun hm => .ok (tdiv_fits x y hx hy hm)
  unfold i128DivModFloor
  exact hd.bind fun q hq => .bind' fun r =>
    .ite (fun _ => (plainI128_fits prof _).bind fun q' hq' => .bind' fun _ => .pure hq') fun _ => .pure hq

/-- the quotient of a wide floor division, when there is one, fits -/
def QFits (o : Option (Int × Int)) : Prop := ∀ q r, o = some (q, r) → fitsI128 q = true
theorem QFits.none : QFits none := fun _ _ h => nomatch h
theorem QFits.some {q r : Int} (h : fitsI128 q = true) : QFits (some (q, r)) := fun _ _ e => by cases e; exact h

theorem shifted_quot_fits (prof : Profile) (x : Int) (p : Nat) (y : Int) : Post (i128ShiftedDivModFloor prof x p y) QFits := by
  unfold i128ShiftedDivModFloor
  refine .bind' fun t => .bind' fun ⟨xh, xl⟩ => .bind' fun ⟨xh', xl', r'⟩ => .ite (fun _ => .pure .none) fun hc => ?_
  have hxl : fitsI128 (xl' : Int) = true := fits_natCast (Int.not_lt.mp fun hh => hc (Or.inr hh))
  have neg : ∀ r : Int, Post (negI128 prof (xl' : Int) >>= fun q => pure (some (q, r))) QFits := fun r =>
    (plainI128_fits prof _).bind fun q hq => .pure (.some hq)
  have negm : ∀ g : Int → Int, Post (negI128 prof (xl' : Int) >>= fun q => plainI128 prof (q - 1) >>= fun q =>
      plainI128 prof (g q) >>= fun r => pure (some (q, r))) QFits := fun g =>
    .bind' fun _ => (plainI128_fits prof _).bind fun q hq => .bind' fun _ => .pure (.some hq)
  exact .ite
    (fun _ => .ite (fun _ => .bind' fun _ => .pure (.some hxl)) fun _ => .ite (fun _ => neg _) fun _ => negm _)
    (fun _ => .ite (fun _ => .ite (fun _ => neg _) fun _ => negm _) fun _ => .pure (.some hxl))

theorem mul_quot_fits (prof : Profile) (x1 x2 y : Int) : Post (i256DivModFloor prof x1 x2 y) QFits := by
  unfold i256DivModFloor
  refine .bind' fun _ => .bind' fun ⟨xh, xl⟩ => .bind' fun ⟨xh', xl', r'⟩ => .ite (fun _ => .pure .none) fun hc => ?_
  have hxl : fitsI128 (xl' : Int) = true := fits_natCast (Int.not_lt.mp fun hh => hc (Or.inr hh))
  exact .ite
    (fun _ => .ite (fun _ => (plainI128_fits prof _).bind fun q hq => .pure (.some hq))
      fun _ => .bind' fun _ => (plainI128_fits prof _).bind fun q hq => .bind' fun _ => .pure (.some hq))
    (fun _ => .pure (.some hxl))

end Fpdec
