import Fpdec.Lemmas.ParseSwar
import Fpdec.Lemmas.ParseSpec
import Fpdec.Lemmas.Digits

/-!
# The two loops of `accum_coeff`

Started on a saturated accumulator `min a u128::MAX` they return `min a' u128::MAX`, where `a'` is `a` with the digits they consume
appended (`pushDigits`), so the overflow test that follows them is a test on the true value.
-/

namespace Fpdec.ParseAux
open Fpdec Fpdec.Model

theorem digitsVal_nil : Spec.digitsVal [] = 0 := rfl

theorem digitVal_lt_iff (c : Nat) (hc : c < 256) : digitVal c < 10 ↔ Spec.isDig c = true := by
  unfold digitVal; rw [isDig_iff]; omega

theorem digitVal_of_isDig (c : Nat) (h : Spec.isDig c = true) : digitVal c = c - 48 := by
  have h := isDig_iff.mp h
  unfold digitVal
  rw [Nat.sub_add_comm h.1, Nat.add_mod_right]
  exact Nat.mod_eq_of_lt (Nat.lt_of_le_of_lt (Nat.sub_le _ _) (Nat.lt_of_le_of_lt h.2 (by decide)))

def M128 : Nat := U128_MOD - 1

theorem sat_eq (x : Nat) : (if x < U128_MOD then x else U128_MOD - 1) = min x M128 := by
  unfold M128
  rw [Nat.min_def]
  simp only [Nat.lt_iff_le_pred (show 0 < U128_MOD by decide)]

theorem satMulU128_eq (a b : Nat) : satMulU128 a b = min (a * b) M128 := sat_eq (a * b)

theorem satAddU128_eq (a b : Nat) : satAddU128 a b = min (a + b) M128 := sat_eq (a + b)

theorem min_add_min (y b M : Nat) : min (min y M + b) M = min (y + b) M := by
  rcases Nat.le_total y M with h | h
  · rw [Nat.min_eq_left h]
  · rw [Nat.min_eq_right h, Nat.min_eq_right (Nat.le_add_right M b), Nat.min_eq_right (Nat.le_trans h (Nat.le_add_right y b))]

theorem min_absorb (a k b : Nat) (hk : 1 ≤ k) :
    Nat.min (Nat.min a M128 * k + b) M128 = Nat.min (a * k + b) M128 := by
  show min (min a M128 * k + b) M128 = min (a * k + b) M128
  rcases Nat.le_total a M128 with h | h
  · rw [Nat.min_eq_left h]
  · rw [Nat.min_eq_right h, Nat.min_eq_right (Nat.le_trans (Nat.le_mul_of_pos_right _ hk) (Nat.le_add_right ..)),
      Nat.min_eq_right (Nat.le_trans h (Nat.le_trans (Nat.le_mul_of_pos_right _ hk) (Nat.le_add_right ..)))]

/-- one step of a saturating accumulation: saturation commutes with `· * k + b` -/
theorem sat_step (a k b : Nat) (hk : 1 ≤ k) :
    satAddU128 (satMulU128 (min a M128) k) b = min (a * k + b) M128 := by
  rw [satMulU128_eq, satAddU128_eq, min_add_min]
  exact min_absorb a k b hk

theorem accumDigits_spec (a : Nat) (s : List Nat) (hb : ∀ x ∈ s, x < 256) :
    accumDigits (min a M128) s = (min (pushDigits a (Spec.spanDigits s).1) M128, (Spec.spanDigits s).2) := by
  induction s generalizing a with
  | nil => rfl
  | cons c cs ih =>
    have hc : c < 256 := hb c (by simp)
    unfold accumDigits
    cases h : Spec.isDig c
    · rw [if_neg (by rw [digitVal_lt_iff c hc, h]; simp), span_cons_nondig c cs h]; rfl
    · rw [if_pos (by rw [digitVal_lt_iff c hc, h]), sat_step _ _ _ (by decide), ih _ (fun x hx => hb x (by simp [hx])),
        span_cons_dig c cs h, digitVal_of_isDig c h]
      rfl

theorem accumChunks_spec (fuel : Nat) : ∀ (a : Nat) (s : List Nat), (∀ x ∈ s, x < 256) →
    ∃ p r, s = p ++ r ∧ (∀ c ∈ p, Spec.isDig c = true) ∧
      accumChunks fuel (min a M128) s = (min (pushDigits a p) M128, r) := by
  induction fuel with
  | zero => exact fun a s _ => ⟨[], s, rfl, by simp, rfl⟩
  | succ fuel ih =>
    intro a s hb
    unfold accumChunks readU64
    by_cases hl : s.length ≥ 8
    · rw [if_pos hl]
      have hlen : (s.take 8).length = 8 := by simp; omega
      by_cases hd : chunkContains8Digits (leBytes (s.take 8)) = true
      · simp only [hd, if_true]
        have hdig := (chunkContains8Digits_iff _ hlen (fun c hc => hb c (List.mem_of_mem_take hc))).mp hd
        rw [chunkToU64_val _ hlen hdig, sat_step _ _ _ (by decide), show a * Gen.PARSE_CHUNK_MUL = a * 10 ^ (s.take 8).length by rw [hlen]; rfl,
          ← pushDigits_eq]
        obtain ⟨p, r, hs, hp, he⟩ := ih (pushDigits a (s.take 8)) (s.drop 8) (fun c hc => hb c (List.mem_of_mem_drop hc))
        refine ⟨s.take 8 ++ p, r, ?_, ?_, ?_⟩
        · rw [List.append_assoc, ← hs, List.take_append_drop]
        · exact fun c hc => (List.mem_append.mp hc).elim (hdig c) (hp c)
        · rw [he, pushDigits_append]
      · simp only [hd]
        exact ⟨[], s, rfl, by simp, rfl⟩
    · rw [if_neg hl]
      exact ⟨[], s, rfl, by simp, rfl⟩

theorem accumCoeff_gen (a : Nat) (s : List Nat) (hb : ∀ x ∈ s, x < 256) :
    accumCoeff (min a M128) s =
      (min (pushDigits a (Spec.spanDigits s).1) M128, (Spec.spanDigits s).2, (Spec.spanDigits s).1.length) := by
  obtain ⟨p, r, hs, hp, he⟩ := accumChunks_spec s.length a s hb
  have hl := span_length r
  unfold accumCoeff
  rw [he]
  simp only
  rw [accumDigits_spec _ r (fun x hx => hb x (by rw [hs]; simp [hx])), hs, span_prefix p r hp, pushDigits_append]
  exact Prod.ext rfl (Prod.ext rfl (by simp only [List.length_append]; omega))

theorem readU64_some_len {s : List Nat} {k : Nat} (h : readU64 s = some k) : 8 ≤ s.length := by
  unfold readU64 at h
  split at h
  · assumption
  · cases h

/-! Without the hypothesis on the bytes: what a loop leaves is a suffix of what it was given. -/

theorem accumChunks_suffix (fuel c : Nat) (s : List Nat) : (accumChunks fuel c s).2 <:+ s := by
  fun_induction accumChunks fuel c s with
  | case2 _ _ s _ _ _ ih => exact ih.trans (List.drop_suffix 8 s)
  | _ => exact List.suffix_refl _

theorem accumDigits_suffix (c : Nat) (s : List Nat) : (accumDigits c s).2 <:+ s := by
  fun_induction accumDigits c s with
  | case2 _ _ _ _ _ ih => exact ih.trans (List.suffix_cons _ _)
  | _ => exact List.suffix_refl _

theorem accumCoeff_suffix (c : Nat) (s : List Nat) : (accumCoeff c s).2.1 <:+ s :=
  (accumDigits_suffix _ _).trans (accumChunks_suffix _ _ _)

theorem accumCoeff_count (c : Nat) (s : List Nat) : (accumCoeff c s).2.2 = s.length - (accumCoeff c s).2.1.length := rfl

end Fpdec.ParseAux
