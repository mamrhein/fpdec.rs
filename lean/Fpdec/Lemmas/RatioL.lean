import Fpdec.Lemmas.Cmp
import Fpdec.Lemmas.IntTy
import Fpdec.Lemmas.TruncDiv
import Fpdec.Model.Ratio
import Mathlib.Data.Int.GCD
import Mathlib.Data.Nat.GCD.Basic
import Mathlib.Tactic.Ring
import Mathlib.Tactic.Linarith
import Mathlib.Tactic.LinearCombination

/-!
# C09 — as_integer_ratio is the reduced fraction; Hash feeds the reduced pair

Model: `gcdLoop`, `gcdSpecial`, `asIntegerRatio`, `numerator`, `denominator`, `hashFeed` in Fpdec/Model/Ratio.lean mirroring
/repo/src/as_integer_ratio.rs (Stein's binary gcd specialised to a denominator `10^e`: `v = 10^e >> e = 5^e` is odd) and
`impl Hash for Decimal` in /repo/src/lib.rs.  `trailingZeros` is in Prim.lean.  Spec: `Spec.ratio`, `Spec.cmp` (Spec/Arith.lean).

Fuel: with `u` odd, every iteration at least halves the potential `u * v * (1 + v % 2)` (`v >>= tz` halves an even `v`, the
subtraction of two odd numbers leaves an even `v`, and `min·(max - min) ≤ min·max`; the factor `1 + v % 2` pays for a first
iteration that starts with an odd `v`, which nothing halves).  `u, v < 2^128` gives potential `< 2^257`, so 258 ≤ 600 units suffice.
-/

namespace Fpdec
open Fpdec.Model

theorem coprime_two_of_odd (u : Nat) (h : u % 2 = 1) : Nat.Coprime 2 u := by
  unfold Nat.Coprime; rw [Nat.gcd_rec, h]; rfl

theorem gcd_odd_div_two_pow (u v k : Nat) (hu : u % 2 = 1) (hd : 2 ^ k ∣ v) :
    Nat.gcd u (v / 2 ^ k) = Nat.gcd u v := by
  obtain ⟨w, rfl⟩ := hd
  rw [Nat.mul_div_cancel_left _ (Nat.pow_pos (by decide))]
  exact (Nat.Coprime.gcd_mul_left_cancel_right w ((coprime_two_of_odd u hu).pow_left k)).symm

theorem gcdLoop_spec : ∀ (fuel u v : Nat), u % 2 = 1 → u < 2 ^ 128 → v < 2 ^ 128 → u * v * (1 + v % 2) < 2 ^ fuel →
    gcdLoop (fuel + 1) u v = some (Nat.gcd u v) := by
  intro fuel
  induction fuel with
  | zero =>
    intro u v hu _ _ hm
    have : v = 0 := by
      rcases Nat.eq_zero_or_pos v with h | h
      · exact h
      · have : 1 * 1 * 1 ≤ u * v * (1 + v % 2) := Nat.mul_le_mul (Nat.mul_le_mul (by omega) h) (by omega)
        omega
    subst this
    simp [gcdLoop]
  | succ n ih =>
    intro u v hu hub hvb hm
    rw [gcdLoop]
    by_cases hv0 : v = 0
    · subst hv0; simp
    · simp only [hv0, if_false]
      obtain ⟨hd, hodd⟩ := trailingZeros_spec v (by omega) hvb
      have hg := gcd_odd_div_two_pow u v _ hu hd
      rw [Nat.shiftRight_eq_div_pow] at hodd ⊢
      generalize trailingZeros 128 v = tz at *
      -- nothing to halve when `v` is odd (`tz = 0`), at least one factor 2 otherwise
      have h2 : 2 * (v / 2 ^ tz) ≤ v * (1 + v % 2) := by
        obtain ⟨w, rfl⟩ := hd
        rw [Nat.mul_div_cancel_left _ (Nat.pow_pos (by decide))] at hodd ⊢
        cases tz with
        | zero => simp only [Nat.pow_zero, Nat.one_mul, hodd]; omega
        | succ t =>
          have : 2 * w ≤ 2 ^ (t + 1) * w :=
            Nat.mul_le_mul_right _ (by rw [Nat.pow_succ]; have := Nat.one_le_two_pow (n := t); omega)
          exact Nat.le_trans this (Nat.le_mul_of_pos_right _ (by omega))
      have hle : v / 2 ^ tz ≤ v := Nat.div_le_self _ _
      generalize v / 2 ^ tz = v' at *
      have h3 : 2 * (u * v') ≤ u * v * (1 + v % 2) := by
        calc 2 * (u * v') = u * (2 * v') := by ring
          _ ≤ u * (v * (1 + v % 2)) := Nat.mul_le_mul_left _ h2
          _ = u * v * (1 + v % 2) := by ring
      rw [Nat.pow_succ] at hm
      -- the smaller of the two odd numbers stays, their even difference replaces the larger
      have step (a b : Nat) (ha : a % 2 = 1) (hb : b % 2 = 1) (hab : a ≤ b) (hbb : b < 2 ^ 128) (he : a * b = u * v') :
          gcdLoop (n + 1) a (b - a) = some (Nat.gcd a b) := by
        have h4 : a * (b - a) ≤ a * b := Nat.mul_le_mul_left _ (Nat.sub_le _ _)
        have h5 : (b - a) % 2 = 0 := by omega
        rw [ih a (b - a) ha (by omega) (by omega) (by rw [h5]; omega), Nat.gcd_sub_self_right hab]
      by_cases hgt : u > v'
      · simp only [hgt, if_true]
        rw [step v' u hodd hu (by omega) hub (Nat.mul_comm _ _), Nat.gcd_comm, hg]
      · simp only [hgt, if_false]
        rw [step u v' hu hodd (by omega) (by omega) rfl, hg]

/-- for 128-bit operands any fuel ≥ 258 suffices (the model uses 600) -/
theorem gcdLoop_u128 (fuel u v : Nat) (hu : u % 2 = 1) (hub : u < 2 ^ 128) (hvb : v < 2 ^ 128) (hf : 256 < fuel) :
    gcdLoop (fuel + 1) u v = some (Nat.gcd u v) := by
  apply gcdLoop_spec fuel u v hu hub hvb
  have h1 : u * v < 2 ^ 256 := Nat.pow_add 2 128 128 ▸ Nat.mul_lt_mul'' hub hvb
  have h2 : u * v * (1 + v % 2) < 2 ^ 256 * 2 :=
    Nat.lt_of_lt_of_le (Nat.mul_lt_mul_of_pos_right h1 (by omega)) (Nat.mul_le_mul_left _ (by omega))
  obtain ⟨k, rfl⟩ : ∃ k, fuel = 256 + (1 + k) := ⟨fuel - 257, by omega⟩
  rw [Nat.pow_add, Nat.pow_add, Nat.pow_one, ← Nat.mul_assoc]
  exact Nat.lt_of_lt_of_le h2 (Nat.le_mul_of_pos_right _ (Nat.pow_pos (by decide)))

theorem gcd_two_pow_split (a e u' : Nat) (hu : u' % 2 = 1) :
    Nat.gcd (2 ^ a * u') (10 ^ e) = 2 ^ (Nat.min a e) * Nat.gcd u' (5 ^ e) := by
  have h10 : (10 : Nat) ^ e = 2 ^ e * 5 ^ e := by rw [← Nat.mul_pow]
  rw [h10]
  rcases Nat.le_total a e with h | h
  · have hm : Nat.min a e = a := Nat.min_eq_left h
    rw [hm]
    have : (2 : Nat) ^ e = 2 ^ a * 2 ^ (e - a) := by rw [← Nat.pow_add]; congr 1; omega
    rw [this, Nat.mul_assoc, Nat.gcd_mul_left]
    congr 1
    exact Nat.Coprime.gcd_mul_left_cancel_right _ ((coprime_two_of_odd u' hu).pow_left _)
  · have hm : Nat.min a e = e := Nat.min_eq_right h
    rw [hm]
    have : (2 : Nat) ^ a = 2 ^ e * 2 ^ (a - e) := by rw [← Nat.pow_add]; congr 1; omega
    rw [this, Nat.mul_assoc, Nat.gcd_mul_left]
    congr 1
    exact Nat.Coprime.gcd_mul_left_cancel _ (Nat.Coprime.pow _ _ (by decide))

/-- `gcd_special` on its domain, after the assertions, `abs` and the table lookup -/
theorem gcdSpecial_eq (prof : Profile) (numer : Int) (e : Nat) (hn : I128_MIN < numer ∧ numer ≤ I128_MAX) (hn0 : numer ≠ 0)
    (he : e ≤ 38) :
    gcdSpecial prof numer e =
      match gcdLoop 600 (numer.natAbs >>> trailingZeros 128 numer.natAbs) ((10 ^ e) >>> e) with
      | none => .panic .other
      | some g => .ok (IntTy.i128.cast ((g <<< (Nat.min (trailingZeros 128 numer.natAbs) e) : Nat) : Int)) := by
  have hten : ((10 : Int) ^ e).toNat = 10 ^ e := by
    rw [show ((10 : Int) ^ e) = ((10 ^ e : Nat) : Int) by push_cast; rfl, Int.toNat_natCast]
  unfold gcdSpecial
  simp only [assert, hn0, he, ne_eq, not_false_eq_true, decide_true, if_true, abs_ok prof hn, Outcome.bind_ok,
    Nat.mod_eq_of_lt (show e < 256 by omega), tenPow_ok e he, Int.toNat_natCast, hten]
  rfl

/-- `e ≤ 38` is the code's own precondition (the table of powers of ten ends there); `5^38 < 2^128` keeps the loop's second operand
    in 128 bits. -/
theorem gcdSpecial_spec (prof : Profile) (numer : Int) (e : Nat) (hn : I128_MIN < numer ∧ numer ≤ I128_MAX) (hn0 : numer ≠ 0)
    (he : e ≤ 38) : gcdSpecial prof numer e = .ok (Int.gcd numer ((10 : Int) ^ e) : Int) := by
  rw [gcdSpecial_eq prof numer e hn hn0 he]
  have hgcd : Int.gcd numer ((10 : Int) ^ e) = Nat.gcd numer.natAbs (10 ^ e) := by
    show Nat.gcd numer.natAbs ((10 : Int) ^ e).natAbs = _
    rw [Int.natAbs_pow]; rfl
  have hupos : 0 < numer.natAbs := by omega
  have hmax := natAbs_le_max hn
  have hult : numer.natAbs < 2 ^ 128 := natAbs_lt_U128 ⟨Int.le_of_lt hn.1, hn.2⟩
  rw [hgcd]
  obtain ⟨hd, hodd⟩ := trailingZeros_spec numer.natAbs hupos hult
  generalize numer.natAbs = u at *
  generalize trailingZeros 128 u = tz at *
  rw [Nat.shiftRight_eq_div_pow] at hodd ⊢
  have hu : u = 2 ^ tz * (u / 2 ^ tz) := (Nat.mul_div_cancel' hd).symm
  have hu'lt : u / 2 ^ tz < 2 ^ 128 := Nat.lt_of_le_of_lt (Nat.div_le_self _ _) hult
  generalize u / 2 ^ tz = u' at *
  have hv : (10 : Nat) ^ e >>> e = 5 ^ e := by
    rw [Nat.shiftRight_eq_div_pow, show (10 : Nat) ^ e = 2 ^ e * 5 ^ e by rw [← Nat.mul_pow],
      Nat.mul_div_cancel_left _ (Nat.pow_pos (by decide))]
  have h5 : (5 : Nat) ^ e < 2 ^ 128 :=
    Nat.lt_of_le_of_lt (Nat.pow_le_pow_right (by decide) he) (by decide)
  rw [hv, gcdLoop_u128 599 u' (5 ^ e) hodd hu'lt h5 (by decide)]
  have hsplit := gcd_two_pow_split tz e u' hodd
  rw [← hu] at hsplit
  simp only []
  rw [hsplit, Nat.shiftLeft_eq, Nat.mul_comm, i128_cast_id]
  · unfold I128_MIN; omega
  · have hle : Nat.gcd u (10 ^ e) ≤ u := Nat.gcd_le_left _ hupos
    rw [hsplit] at hle
    omega

theorem ratio_scale (a : Int) (p k : Nat) : Spec.ratio (a * (10 : Int) ^ k) (p + k) = Spec.ratio a p := by
  have hK := pow10_pos k
  unfold Spec.ratio
  simp only
  rw [Int.pow_add, Int.gcd_mul_right, Int.natCast_mul, Int.natCast_natAbs, abs_of_pos hK,
    Int.mul_ediv_mul_of_pos_left _ _ hK, Int.mul_ediv_mul_of_pos_left _ _ hK]

/-- C09: equal values, in any two representations, have the same reduced fraction. -/
theorem ratio_congr (a : Int) (p : Nat) (b : Int) (q : Nat) (h : Spec.cmp a p b q = .eq) :
    Spec.ratio a p = Spec.ratio b q :=
  eq_of_spec_cmp_eq ratio_scale h

theorem ratio_nfrac_zero (a : Int) : Spec.ratio a 0 = (a, 1) := by
  simp [Spec.ratio]

theorem ratio_coeff_zero (p : Nat) : Spec.ratio 0 p = (0, 1) := by
  simp [Spec.ratio, Int.ediv_self (Int.ne_of_gt (pow10_pos p))]

theorem asIntegerRatio_spec (prof : Profile) (d : Dec) (hd : Dom d) :
    asIntegerRatio prof d = .ok (Spec.ratio d.coeff d.nfrac) ∧
    numerator prof d = .ok (Spec.ratio d.coeff d.nfrac).1 ∧ denominator prof d = .ok (Spec.ratio d.coeff d.nfrac).2 := by
  obtain ⟨a, p⟩ := d
  obtain ⟨h1, h2, h3⟩ := hd
  simp only at h1 h2 h3
  unfold asIntegerRatio numerator denominator
  simp only
  by_cases hc : p = 0 ∨ a = 0
  · simp only [hc, if_true]
    rcases hc with rfl | rfl
    · rw [ratio_nfrac_zero]; exact ⟨rfl, rfl, rfl⟩
    · rw [ratio_coeff_zero]; exact ⟨rfl, rfl, rfl⟩
  · simp only [hc, if_false]
    have ha : a ≠ 0 := fun h => hc (Or.inr h)
    rw [gcdSpecial_spec prof a p ⟨h1, h2⟩ ha (by omega), tenPow_ok p (by omega)]
    simp only [Outcome.bind_ok]
    have hg : 0 < Int.gcd a ((10 : Int) ^ p) := Int.gcd_pos_of_ne_zero_left _ ha
    have hgpos : (0 : Int) < (Int.gcd a ((10 : Int) ^ p) : Int) := by omega
    rw [divI128_exact a _ hgpos (Int.gcd_dvd_left _ _), divI128_exact _ _ hgpos (Int.gcd_dvd_right _ _)]
    exact ⟨rfl, rfl, rfl⟩

theorem hashFeed_spec (prof : Profile) (d : Dec) (hd : Dom d) :
    hashFeed prof d = .ok [(Spec.ratio d.coeff d.nfrac).1, (Spec.ratio d.coeff d.nfrac).2] := by
  unfold hashFeed
  rw [(asIntegerRatio_spec prof d hd).1]
  rfl

/-- C09: equal Decimals feed the same words to the hasher, those of their reduced fraction. -/
theorem hash_congr (prof : Profile) (x y : Dec) (hx : Dom x) (hy : Dom y)
    (h : Spec.cmp x.coeff x.nfrac y.coeff y.nfrac = .eq) :
    hashFeed prof x = hashFeed prof y ∧ hashFeed prof x = .ok [(Spec.ratio x.coeff x.nfrac).1, (Spec.ratio x.coeff x.nfrac).2] :=
  ⟨by rw [hashFeed_spec prof x hx, hashFeed_spec prof y hy, ratio_congr _ _ _ _ h], hashFeed_spec prof x hx⟩

end Fpdec
