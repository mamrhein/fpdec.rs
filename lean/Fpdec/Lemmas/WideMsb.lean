import Fpdec.Lemmas.Rounding
import Fpdec.Lemmas.IntTy

/-!
# `u128_msb` returns the index of the most significant bit (C16)

The binary search keeps `st = (n, i >>> n)` with the residue non-zero and below `2^b`, `b` halving at each step
(`MsbInv`); the table finishes the last four bits.
-/

namespace Fpdec

namespace Wide
open Fpdec Fpdec.Model

theorem and_shl_mask (v k : Nat) (hv : v < 2 ^ k * 2 ^ k) :
    v &&& ((2 ^ k - 1) <<< k) = (v / 2 ^ k) * 2 ^ k := by
  have h1 : v &&& ((2 ^ k - 1) <<< k) = ((v >>> k) &&& (2 ^ k - 1)) <<< k := by
    apply Nat.eq_of_testBit_eq
    intro i
    simp only [Nat.testBit_and, Nat.testBit_shiftLeft, Nat.testBit_shiftRight]
    by_cases h : k ≤ i <;> simp [h]
  rw [h1, Nat.and_two_pow_sub_one_eq_mod, Nat.shiftLeft_eq, Nat.shiftRight_eq_div_pow]
  have : v / 2 ^ k < 2 ^ k := by
    rw [Nat.div_lt_iff_lt_mul (Nat.two_pow_pos k)]; exact hv
  rw [Nat.mod_eq_of_lt this]

theorem msbStep_eq (v n k : Nat) (hv : v < 2 ^ k * 2 ^ k) :
    msbStep ((2 ^ k - 1) <<< k) k (n, v) = if 2 ^ k ≤ v then (n + k, v / 2 ^ k) else (n, v) := by
  unfold msbStep
  simp only [and_shl_mask v k hv, Nat.shiftRight_eq_div_pow]
  have hp := Nat.two_pow_pos k
  by_cases h : 2 ^ k ≤ v
  · have : v / 2 ^ k * 2 ^ k ≠ 0 := Nat.mul_ne_zero (Nat.ne_of_gt (Nat.div_pos h hp)) (Nat.ne_of_gt hp)
    simp [h, this]
  · have : v / 2 ^ k = 0 := Nat.div_eq_of_lt (by omega)
    simp [h, this]

/-- state of the search with `b` bits still to be located (`i = 0` is not excluded: release builds get there) -/
def MsbInv (i b : Nat) (st : Nat × Nat) : Prop :=
  (0 < i → 0 < st.2) ∧ st.2 < 2 ^ b ∧ st.2 = i / 2 ^ st.1 ∧ st.1 + b ≤ 128

theorem msbInv_init {i : Nat} (h1 : i < U128_MOD) : MsbInv i (2 * 64) (0, i) :=
  ⟨id, h1, (Nat.div_one i).symm, Nat.le_refl _⟩

theorem msbInv_step {i : Nat} (k : Nat) {mask : Nat} (hm : mask = (2 ^ k - 1) <<< k) {st : Nat × Nat}
    (h : MsbInv i (2 * k) st) : MsbInv i k (msbStep mask k st) := by
  obtain ⟨n, v⟩ := st
  obtain ⟨hpos, hv, hinv, hn⟩ := h
  rw [Nat.two_mul, Nat.pow_add] at hv
  rw [hm, msbStep_eq v n k hv]
  have hK := Nat.two_pow_pos k
  split
  next h =>
    exact ⟨fun _ => Nat.div_pos h hK, (Nat.div_lt_iff_lt_mul hK).mpr hv,
      by dsimp only at hinv ⊢; rw [hinv, Nat.div_div_eq_div_mul, ← Nat.pow_add], by dsimp only at hn ⊢; omega⟩
  next h => exact ⟨hpos, by dsimp only; omega, hinv, by dsimp only at hn ⊢; omega⟩

/-- the count after one more step is a `u8` -/
theorem MsbInv.add_lt {i k : Nat} {st : Nat × Nat} (h : MsbInv i (2 * k) st) : st.1 + k < 256 := by
  have := h.2.2.2
  omega

theorem msb_idx_map : ∀ v : Nat, v < 16 → v ≠ 0 → Gen.MSB_IDX_MAP[v]? = some (v.log2 + 1) := by decide

theorem log2_div_two_pow {i n : Nat} (h : i / 2 ^ n ≠ 0) : (i / 2 ^ n).log2 + n = i.log2 := by
  have hi : i ≠ 0 := fun h0 => h (by rw [h0, Nat.zero_div])
  refine ((Nat.log2_eq_iff hi).mpr ⟨?_, ?_⟩).symm
  · rw [Nat.pow_add, ← Nat.le_div_iff_mul_le (Nat.two_pow_pos n)]
    exact Nat.log2_self_le h
  · rw [Nat.add_right_comm, Nat.pow_add, ← Nat.div_lt_iff_lt_mul (Nat.two_pow_pos n)]
    exact Nat.lt_log2_self

theorem log2_lt_128 {i : Nat} (h0 : 0 < i) (h1 : i < U128_MOD) : i.log2 < 128 :=
  (Nat.log2_lt (Nat.ne_of_gt h0)).mpr h1

/-- `u128_msb(i)` is the position of the leading one of `i`; no `u8` operation overflows, in any profile -/
theorem u128Msb_eq_log2 (prof : Profile) (i : Nat) (h0 : 0 < i) (h1 : i < U128_MOD) : u128Msb prof i = .ok i.log2 := by
  unfold u128Msb
  rw [bne_iff_ne.mpr (Nat.pos_iff_ne_zero.mp h0), debugAssert_true]
  dsimp only
  have h : MsbInv i 4 _ := msbInv_step 4 rfl <| msbInv_step 8 rfl <| msbInv_step 16 rfl <|
    msbInv_step 32 rfl <| msbInv_step 64 rfl (msbInv_init h1)
  generalize msbStep 0xf0 4 _ = st at h ⊢
  obtain ⟨n, v⟩ := st
  obtain ⟨hpos, hv, hinv, hn⟩ := h
  replace hpos := Nat.pos_iff_ne_zero.mp (hpos h0)
  dsimp only at hpos hv hinv hn ⊢
  have hs : n + (v.log2 + 1) ≤ 255 := by have := (Nat.log2_lt hpos).mpr hv; omega
  rw [msb_idx_map v hv hpos]
  dsimp only
  rw [← Int.natCast_add, plainU8_ok prof (Int.natCast_nonneg _) (Int.ofNat_le.mpr hs)]
  dsimp only
  rw [Int.toNat_natCast]
  exact (plainU8_natSub prof _ 1 _ rfl hs (Nat.le_add_left 1 _)).trans
    (congrArg _ ((Nat.add_comm n _).trans (hinv ▸ log2_div_two_pow (hinv ▸ hpos))))

end Wide
end Fpdec
