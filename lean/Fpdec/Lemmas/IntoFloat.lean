import Fpdec.Lemmas.Dom
import Fpdec.Lemmas.IntTy
import Fpdec.Lemmas.IntoFloatArith
import Fpdec.Lemmas.Bits
import Fpdec.Spec.Float
import Fpdec.Model.Float

/-!
# C12 — Decimal → f64 / f32 is correctly rounded

Model: `fromDecimal`, `intoFloat`, `shlU128`, `nSignifBits` in Fpdec/Model/Float.lean mirroring /repo/src/into_float.rs
(`Float::from_decimal`): shift numerator/denominator so that the integer quotient has `add_bits` or `add_bits + 1`
(= fraction bits + 3 extra, +1) significant bits, take 2 or 3 guard bits plus a sticky bit from the remainder, compare with TIE,
add the increment to the assembled bits (a carry may ripple into the exponent field).
Spec: `Spec.rneBits` / `Spec.intoFloat` in Fpdec/Spec/Float.lean: exponent from the definition, significand by half-even rounding
of the exact quotient.  `leadingZeros` is in Prim.lean (`128 - log2 - 1`).  The integer-valued branch (`d.coeff as f64`) is
*assumed* round-to-nearest-even and modelled by the spec function itself, so it is trivial.

*Either* the numerator *or* the denominator is shifted (the denominator when `|coeff|` has more than
`add_bits` bits more than `10^p`); the proof treats both uniformly through `num.log2 + s = den.log2 + t + add_bits`.
-/

namespace Fpdec
open Fpdec.Model Fpdec.Spec Fpdec.FloatArith

theorem shlU128_ok (prof : Profile) (x s : Nat) (hs : s < 128) (hx : x * 2 ^ s < 2 ^ 128) :
    shlU128 prof x s = .ok (x * 2 ^ s) := by
  unfold shlU128 wrapU128
  rw [if_neg (Nat.not_le_of_lt hs), Nat.shiftLeft_eq]
  exact congrArg Outcome.ok (Nat.mod_eq_of_lt hx)

theorem shlU128_log2 (prof : Profile) {v : Nat} (hv : v ≠ 0) {s : Nat} (h : v.log2 + s ≤ 127) :
    shlU128 prof v s = .ok (v * 2 ^ s) :=
  shlU128_ok prof v s (by omega)
    ((Nat.log2_lt (Nat.mul_ne_zero hv (Nat.ne_of_gt (Nat.two_pow_pos s)))).1 (by rw [log2_mul_two_pow hv]; omega))

theorem nSignifBits_eq {q : Nat} (h0 : q ≠ 0) (h : q.log2 ≤ 127) : nSignifBits q = q.log2 + 1 := by
  have := lz_add_log2 h0 h
  unfold nSignifBits
  omega

theorem nSignifBits_quot {N D add : Nat} (hN : N ≠ 0) (hD : D ≠ 0) (ha : 1 ≤ add) (h : N.log2 = D.log2 + add)
    (h128 : N.log2 ≤ 127) : nSignifBits (N / D) = add ↔ N / D < 2 ^ add := by
  obtain ⟨hq0, hq1⟩ := quot_range hN hD ha h
  have h0 : N / D ≠ 0 := Nat.ne_of_gt (Nat.lt_of_lt_of_le (Nat.two_pow_pos _) hq0)
  have h1 := (Nat.log2_lt h0).2 hq1
  have h2 := (Nat.le_log2 h0).2 hq0
  rw [nSignifBits_eq h0 (by omega), ← Nat.log2_lt h0]
  omega

theorem mask_lookup : ∀ adj, adj ≤ 1 → Gen.FLT_MASK_EXTRA_BITS[adj]? = some (2 ^ (3 - adj) - 1) := by
  intro adj h
  have : adj = 0 ∨ adj = 1 := by omega
  rcases this with rfl | rfl <;> rfl

/-- bit lengths of the two operands of a Decimal: `|coeff| ≤ 2^127`, `10^nfrac ≤ 10^18 < 2^60` -/
theorem domI_log2 {d : Dec} (hd : DomI d) (ha : d.coeff ≠ 0) : d.coeff.natAbs.log2 ≤ 127 ∧ (10 ^ d.nfrac).log2 ≤ 59 := by
  constructor
  · have := (Nat.log2_lt (k := 128) (Int.natAbs_ne_zero.2 ha)).2 (natAbs_lt_U128 ⟨hd.1, hd.2.1⟩)
    omega
  · have := (Nat.log2_lt (k := 60) (Nat.ne_of_gt (Nat.pow_pos (by decide)))).2
      (Nat.lt_of_le_of_lt (Nat.pow_le_pow_right (by decide) hd.2.2 : 10 ^ d.nfrac ≤ 10 ^ 18) (by decide))
    omega

/-- the two shift amounts, from the numbers of leading zeros `u`, `v`: the operand with the smaller bit length (after allowing `ab`
    extra bits) is shifted up, nothing leaves the 128 bits -/
theorem shift_bal {nl dl u v ab : Nat} (hu : u + nl = 127) (hv : v + dl = 127) (hd : dl + ab ≤ 127) :
    nl + (u + ab - v) = dl + (v - u - ab) + ab ∧ nl + (u + ab - v) ≤ 127 := by
  omega

theorem sign_or_lt {f : Spec.FloatFmt} {r b : Nat} (hr : r < 2 ^ (f.bits - 1)) (hb : b ≤ 1) :
    r ||| b <<< (f.bits - 1) < 2 ^ f.bits := by
  obtain ⟨k, hk⟩ : ∃ k, f.bits = k + 1 := ⟨f.expBits + f.fracBits, by unfold FloatFmt.bits; omega⟩
  rw [hk, Nat.add_sub_cancel] at hr ⊢
  refine Nat.or_lt_two_pow (Nat.lt_trans hr (Nat.pow_lt_pow_right (by decide) (Nat.lt_succ_self k))) ?_
  rw [Nat.shiftLeft_eq]
  exact Nat.lt_of_le_of_lt (Nat.mul_le_mul_right _ hb) (by rw [Nat.one_mul]; exact Nat.pow_lt_pow_right (by decide) (Nat.lt_succ_self k))

/-- `Float::from_decimal` in any format whose fields are wide enough (`f64` and `f32` are, for `p ≤ 18`).  `hdl`: 128 bits
    hold the denominator and `add_bits` more, so neither shift loses a bit; `hb0`: the biased exponent is at least 1, so the
    result is normal; `hb1`: the exponent arithmetic stays in `i32`; `hbits`, `hrange`: the pattern is assembled in `u64` and stays
    below the sign bit. -/
theorem fromDecimal_gen (prof : Profile) (f : Spec.FloatFmt) (c : Int) (p : Nat) (hc : c ≠ 0)
    (hnl : c.natAbs.log2 ≤ 127) (hdl : (10 ^ p).log2 + (f.fracBits + 3) ≤ 127)
    (hb0 : ((10 ^ p).log2 : Int) + 2 ≤ f.bias) (hb1 : f.bias ≤ 100000) (hbits : f.bits ≤ 64)
    (hrange : 2 ^ (f.fracBits + 1) + (f.bias + 126).toNat * 2 ^ f.fracBits < 2 ^ (f.bits - 1)) :
    fromDecimal prof f ⟨c, p⟩ = .ok (Spec.intoFloat f c p) := by
  have hnum0 : c.natAbs ≠ 0 := Int.natAbs_ne_zero.2 hc
  have hden0 : 10 ^ p ≠ 0 := Nat.ne_of_gt (Nat.pow_pos (by decide))
  unfold fromDecimal Spec.intoFloat
  dsimp only
  rw [if_neg hc, show (10 : Int) ^ p = ((10 ^ p : Nat) : Int) from (Int.natCast_pow 10 p).symm,
    show Gen.FLT_EXTRA_BITS = 3 from rfl, show Gen.FLT_TIE = 4 from rfl]
  generalize c.natAbs = num at *
  generalize 10 ^ p = den at *
  -- the two shifts: nothing is lost, the denominator does not vanish
  have hdl' : den.log2 ≤ 127 := Nat.le_trans (Nat.le_add_right _ _) hdl
  rw [plainU128_nat prof (show den < 2 ^ 128 from (Nat.log2_lt hden0).1 (Nat.lt_succ_of_le hdl')), Outcome.bind_ok]
  have hu := lz_add_log2 hnum0 hnl
  have hv := lz_add_log2 hden0 hdl'
  generalize leadingZeros 128 num = u at *
  generalize leadingZeros 128 den = v at *
  obtain ⟨hst, hs⟩ := shift_bal hu hv hdl
  -- the exponent before the adjustment, `x = den_lz - num_lz`
  obtain ⟨x, hx, hxl, hx0, hx1⟩ : ∃ x : Int, (v : Int) - u = x ∧ (num.log2 : Int) - den.log2 = x ∧ 2 ≤ f.bias + x ∧ x ≤ 127 :=
    ⟨_, rfl, by omega⟩
  rw [hx]
  generalize u + (f.fracBits + 3) - v = s at *
  generalize v - u - (f.fracBits + 3) = t at *
  have hNl := log2_mul_two_pow hnum0 s
  have hDl := log2_mul_two_pow hden0 t
  have hN0 : num * 2 ^ s ≠ 0 := Nat.mul_ne_zero hnum0 (Nat.ne_of_gt (Nat.two_pow_pos s))
  have hD0 : den * 2 ^ t ≠ 0 := Nat.mul_ne_zero hden0 (Nat.ne_of_gt (Nat.two_pow_pos t))
  rw [shlU128_log2 prof hnum0 hs, Outcome.bind_ok,
    shlU128_log2 prof hden0 (Nat.le_trans (Nat.le_add_right _ _) (hst ▸ hs)), Outcome.bind_ok, if_neg hD0]
  -- the quotient `N / D`, the exponent, and the spec's significand `signif + inc` (`rneBits_spec` with `a = t + 3 - adj`, `b = s`)
  have hfl := floorLog2Ratio_eq num den s t (f.fracBits + 3) hden0 hst
  simp only [nSignifBits_quot hN0 hD0 (Nat.le_add_left 1 _) (by rw [hNl, hDl, hst]) (hNl ▸ hs)]
  generalize hadj : (if num * 2 ^ s / (den * 2 ^ t) < 2 ^ (f.fracBits + 3) then 1 else 0) = adj at hfl ⊢
  have hadj1 : adj ≤ 1 := hadj ▸ ite_le_one _
  obtain ⟨inc, hinc1, hinc, hg⟩ := guard (num * 2 ^ s) (den * 2 ^ t) adj (Nat.pos_of_ne_zero hD0) hadj1
  rw [Nat.mul_assoc, ← Nat.pow_add] at hg
  rw [hxl] at hfl
  obtain ⟨hm0, hm1, hr⟩ := rneBits_spec f _ _ _ _ hnum0 hden0 _ hfl (by omega) _ hg.symm
  have hsig : (num * 2 ^ s / (den * 2 ^ t)) >>> (3 - adj) % 2 ^ 64 = num * 2 ^ s / (den * 2 ^ t) / 2 ^ (3 - adj) := by
    rw [Nat.shiftRight_eq_div_pow]
    exact Nat.mod_eq_of_lt (Nat.lt_of_le_of_lt (Nat.le_add_right _ _)
      (Nat.lt_of_le_of_lt hm1 (Nat.lt_trans (Nat.lt_of_le_of_lt (Nat.le_add_right _ _) hrange)
        (Nat.pow_lt_pow_right (by decide) (by omega)))))
  rw [mask_lookup adj hadj1]
  dsimp only
  simp only [hsig]
  rw [hinc]
  generalize num * 2 ^ s / (den * 2 ^ t) / 2 ^ (3 - adj) = signif at hm0 hm1 hr ⊢
  clear hsig hinc hg hNl hDl hN0 hD0 hst hs hfl hadj hnum0 hden0 hx hxl hu hv hnl hdl hdl' hb0
  -- the exponent arithmetic, in `i32`, then cast to `u64`
  obtain ⟨⟨a1, a2⟩, ⟨a3, a4⟩, ⟨a5, a6⟩, a7, a8⟩ :
      (-2147483648 ≤ x ∧ x ≤ 2147483647) ∧ (-2147483648 ≤ x - adj ∧ x - adj ≤ 2147483647) ∧
      (-2147483648 ≤ f.bias + (x - adj) ∧ f.bias + (x - adj) ≤ 2147483647) ∧
      -2147483648 ≤ f.bias + (x - adj) - 1 ∧ f.bias + (x - adj) - 1 ≤ 2147483647 := by omega
  rw [i32_plain_ok prof a1 a2, Outcome.bind_ok, i32_plain_ok prof a3 a4, Outcome.bind_ok,
    i32_plain_ok prof a5 a6, Outcome.bind_ok, i32_plain_ok prof a7 a8, Outcome.bind_ok]
  obtain ⟨E, hE, hE', hE0, hE1, hE2⟩ : ∃ E : Int, x - adj + f.bias - 1 = E ∧ f.bias + (x - adj) - 1 = E ∧ 0 ≤ E ∧
      E ≤ f.bias + 126 ∧ E ≤ 18446744073709551615 := ⟨_, rfl, by omega⟩
  rw [hE', u64_cast_id hE0 hE2]
  rw [hE] at hr
  replace hr := hr (by omega)
  clear hx0 hx1 hadj1 hb1 a1 a2 a3 a4 a5 a6 a7 a8 hE hE' hE2
  -- nothing reaches the sign bit
  have hH : E.toNat <<< f.fracBits ≤ (f.bias + 126).toNat * 2 ^ f.fracBits := by
    rw [Nat.shiftLeft_eq]; exact Nat.mul_le_mul_right _ (Int.toNat_le_toNat hE1)
  generalize E.toNat <<< f.fracBits = H at hr hH ⊢
  have hlt : signif + inc + H < 2 ^ (f.bits - 1) := by omega
  have h64 : signif + H + inc < 2 ^ 64 := by
    rw [Nat.add_right_comm]
    exact Nat.lt_trans hlt (Nat.pow_lt_pow_right (by decide) (by omega))
  have h64' := Nat.lt_of_le_of_lt (Nat.le_add_right _ _) h64
  rw [Nat.mod_eq_of_lt (Nat.lt_of_le_of_lt (Nat.le_add_left _ _) h64'), ← Int.natCast_add,
    u64_plain_ok prof (Int.natCast_nonneg _) (Int.ofNat_le.2 (Nat.le_of_lt_succ h64')), Outcome.bind_ok, ← Int.natCast_add,
    u64_plain_ok prof (Int.natCast_nonneg _) (Int.ofNat_le.2 (Nat.le_of_lt_succ h64)), Outcome.bind_ok, Outcome.pure_eq,
    Int.toNat_natCast, Nat.add_right_comm, ← hr]
  exact congrArg Outcome.ok (Nat.mod_eq_of_lt (sign_or_lt (hr ▸ hlt) (ite_le_one _)))

/-- Includes `i128::MIN` and the integral values (`n_frac_digits = 0`), which `From<Decimal>` does not send here. -/
theorem fromDecimal_spec (prof : Profile) (f : Spec.FloatFmt) (hf : f = Spec.FloatFmt.f64 ∨ f = Spec.FloatFmt.f32)
    (d : Dec) (hd : DomI d) (ha : d.coeff ≠ 0) : fromDecimal prof f d = .ok (Spec.intoFloat f d.coeff d.nfrac) := by
  obtain ⟨hn, hl⟩ := domI_log2 hd ha
  rcases hf with rfl | rfl <;>
    exact fromDecimal_gen prof _ d.coeff d.nfrac ha hn (Nat.le_trans (Nat.add_le_add_right hl _) (by decide))
      (Int.le_trans (Int.add_le_add_right (Int.ofNat_le.2 hl) 2) (by decide)) (by decide) (by decide) (by decide)

theorem intoFloat_spec (prof : Profile) (f : Spec.FloatFmt) (hf : f = Spec.FloatFmt.f64 ∨ f = Spec.FloatFmt.f32)
    (d : Dec) (hd : DomI d) : Model.intoFloat prof f d = .ok (Spec.intoFloat f d.coeff d.nfrac) := by
  unfold Model.intoFloat
  by_cases h : d.nfrac = 0 ∨ d.coeff = 0
  · rw [if_pos h]
    unfold i128AsFloat Spec.intoFloat
    by_cases hc : d.coeff = 0
    · rw [if_pos hc, if_pos hc]
    · rw [if_neg hc, if_neg hc, h.resolve_right hc, Nat.pow_zero]
  · rw [if_neg h]
    exact fromDecimal_spec prof f hf d hd fun hc => h (.inr hc)

theorem spec_intoFloat_scale (f : Spec.FloatFmt) (a : Int) (p k : Nat) :
    Spec.intoFloat f (a * (10 : Int) ^ k) (p + k) = Spec.intoFloat f a p := by
  have hK := pow10_pos k
  have hs : a * (10 : Int) ^ k < 0 ↔ a < 0 := by
    have := Int.mul_lt_mul_right (b := a) (c := 0) hK
    rwa [Int.zero_mul] at this
  have h10 (n : Nat) : 10 ^ n ≠ 0 := Nat.ne_of_gt (Nat.pow_pos (by decide))
  unfold Spec.intoFloat
  by_cases ha : a = 0
  · rw [if_pos ha, if_pos (by rw [ha, Int.zero_mul])]
  · rw [if_neg ha, if_neg (Int.mul_ne_zero ha (Int.ne_of_gt hK)), Int.natAbs_mul, Int.natAbs_pow, Nat.pow_add,
      show (10 : Int).natAbs = 10 from rfl, rneBits_scale f _ _ _ (Int.natAbs_ne_zero.mpr ha) (h10 p) (h10 k),
      if_congr hs rfl rfl]

end Fpdec
