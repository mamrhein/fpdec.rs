import Fpdec.Lemmas.WideKnuth

/-!
# The correction loop `corrLoop` returns the exact quotient digit (C16)

Lean cannot generate the equation lemmas of `corrLoop`: a definitional unfolding that reaches `plainU128`'s comparison of a
non-literal `Int` with the literal 2^128 recurses 2^128 deep (`Nat.sub _ 2^128`), in the elaborator and in the kernel alike.  So
`corrLoop_zero` / `corrLoop_succ` are proved from `Nat.brecOn`, with `corrCond …` and `plainU128 …` generalised to variables before
anything is compared up to reduction.
-/

namespace Fpdec.Wide
open Fpdec Fpdec.Model

theorem corrCond_eq (prof : Profile) (yn0 xn q rhat : Nat) (h0 : yn0 < U64_MOD) (hx : xn < U64_MOD)
    (hr : rhat < U64_MOD) :
    corrCond prof yn0 xn q rhat = .ok (decide (q ≥ U64_MOD ∨ q * yn0 > rhat * U64_MOD + xn)) := by
  unfold corrCond
  by_cases hq : q ≥ U64_MOD
  · rw [if_pos hq]; simp only [hq, true_or, decide_true]
  · have hl := mul_lt_U128 (Nat.lt_of_not_le hq) h0
    have hr2 := lt_base2 hr hx
    rw [if_neg hq, ← Int.natCast_mul, plainU128_nat prof hl, Outcome.bind_ok, ← Int.natCast_mul,
      plainU128_nat prof (Nat.lt_of_le_of_lt (Nat.le_add_right _ _) hr2), Outcome.bind_ok, ← Int.natCast_add,
      plainU128_nat prof hr2, Outcome.bind_ok, Outcome.pure_eq]
    simp only [hq, false_or]

/-- `Nat.brecOn` calls `F` on a table `B` of the earlier values … -/
theorem nat_brecOn_eq {motive : Nat → Sort _} (F : (t : Nat) → Nat.below (motive := motive) t → motive t) (n : Nat) :
    ∃ B, Nat.brecOn n F = F n B := by
  cases n <;> exact ⟨_, rfl⟩

/-- … whose first entry is the value at the predecessor -/
theorem nat_brecOn_succ {motive : Nat → Sort _} (F : (t : Nat) → Nat.below (motive := motive) t → motive t) (n : Nat) :
    ∃ B : Nat.below (motive := motive) (n + 1), B.1 = Nat.brecOn n F ∧ Nat.brecOn (n + 1) F = F (n + 1) B :=
  ⟨_, rfl, rfl⟩

theorem corrLoop_brec (prof : Profile) (yn1 yn0 xn q : Nat) :
    corrLoop prof yn1 yn0 xn q = Nat.brecOn (motive := fun _ => Nat → Outcome (Nat × Nat)) q (corrLoop._f prof yn1 yn0 xn) := by
  delta corrLoop
  exact Eq.refl _

/-- at `q = 0` the loop test fails -/
theorem corrCond_zero (prof : Profile) (yn0 xn rhat : Nat) : Post (corrCond prof yn0 xn 0 rhat) (· = false) := by
  unfold corrCond
  rw [if_neg (by decide), ← Int.natCast_mul, Nat.zero_mul, plainU128_nat prof (by decide), Outcome.bind_ok]
  exact .bind' fun _ => .bind' fun r => .pure (decide_eq_false (Nat.not_lt_zero r))

/-- so the branch `q -= 1` on zero is dead -/
theorem corrLoop_zero (prof : Profile) (yn1 yn0 xn rhat q : Nat) (hq : q = 0) :
    corrLoop prof yn1 yn0 xn q rhat = corrCond prof yn0 xn q rhat >>= fun _ => .ok (q, rhat) := by
  have hc : Post (corrCond prof yn0 xn q rhat) (· = false) := hq ▸ corrCond_zero prof yn0 xn rhat
  obtain ⟨B, h⟩ := nat_brecOn_eq (corrLoop._f prof yn1 yn0 xn) q
  rw [corrLoop_brec, h]
  delta corrLoop._f
  -- `q` is still a variable here: `corrCond … 0 rhat` is one of the terms that must not be evaluated
  generalize corrCond prof yn0 xn q rhat = c at hc ⊢
  subst hq
  rcases c with (_ | _) | k
  · rfl
  · cases hc true rfl
  · rfl

theorem corrLoop_succ (prof : Profile) (yn1 yn0 xn q q' rhat : Nat) (hq : q = q' + 1) :
    corrLoop prof yn1 yn0 xn q rhat = corrCond prof yn0 xn q rhat >>= fun c =>
      if c then plainU128 prof (rhat + yn1) >>= fun rhat' =>
        if rhat' ≥ U64_MOD then .ok (q', rhat') else corrLoop prof yn1 yn0 xn q' rhat'
      else .ok (q, rhat) := by
  subst hq
  obtain ⟨B, hB, h⟩ := nat_brecOn_succ (corrLoop._f prof yn1 yn0 xn) q'
  rw [corrLoop_brec prof yn1 yn0 xn q', ← hB, corrLoop_brec, h]
  delta corrLoop._f
  generalize corrCond prof yn0 xn (q' + 1) rhat = c
  generalize plainU128 prof (↑rhat + ↑yn1) = p
  rcases c with (_ | _) | k
  · rfl
  · cases p <;> rfl
  · rfl

/-- started at or above the true digit `Q`, the loop ends at `Q`; no plain operation overflows and `q -= 1` never
    underflows, in any profile -/
theorem corrLoop_spec (prof : Profile) {y1 y0 x1 x32 Q : Nat} (hy1 : y1 < U64_MOD) (hy0 : y0 < U64_MOD)
    (hx1 : x1 < U64_MOD) (hx : x32 < y1 * U64_MOD + y0) (hQ : Q = (x32 * U64_MOD + x1) / (y1 * U64_MOD + y0)) :
    ∀ q r, q * y1 + r = x32 → Q ≤ q → r < U64_MOD → ∃ r', corrLoop prof y1 y0 x1 q r = .ok (Q, r') := by
  have hQB : Q < U64_MOD := hQ ▸ digit_lt_base hx hx1
  have ht : ∀ {q r}, q * y1 + r = x32 → (q ≤ Q ↔ q * y0 ≤ r * U64_MOD + x1) :=
    fun h => hQ ▸ le_digit_iff (by omega) h
  -- the induction knows `Q` through `hQB` and `ht` only
  clear hQ
  intro q
  induction q with
  | zero =>
    intro r _ hge hr
    rw [corrLoop_zero prof y1 y0 x1 r 0 rfl, corrCond_eq prof y0 x1 0 r hy0 hx1 hr, Nat.le_zero.mp hge]
    exact ⟨r, rfl⟩
  | succ q ih =>
    intro r hinv hge hr
    have ht1 := ht hinv
    rw [corrLoop_succ prof y1 y0 x1 (q + 1) q r rfl, corrCond_eq prof y0 x1 (q + 1) r hy0 hx1 hr, Outcome.bind_ok]
    by_cases hc : q + 1 ≥ U64_MOD ∨ (q + 1) * y0 > r * U64_MOD + x1
    · -- the test holds, so `q + 1` is above the digit
      have hgt : Q ≤ q := by omega
      have hinv' : q * y1 + (r + y1) = x32 := by rw [← hinv, Nat.succ_mul, Nat.add_assoc, Nat.add_comm r]
      have hs : r + y1 < U128_MOD := Nat.lt_of_lt_of_le (Nat.add_lt_add hr hy1) (by decide)
      rw [decide_eq_true hc, if_pos rfl, ← Int.natCast_add, plainU128_nat prof hs, Outcome.bind_ok]
      by_cases hb : r + y1 ≥ U64_MOD
      · rw [if_pos hb, Nat.le_antisymm hgt ((ht hinv').mpr (break_le hy0 hx hinv' hb))]
        exact ⟨_, rfl⟩
      · rw [if_neg hb]
        exact ih (r + y1) hinv' hgt (by omega)
    · rw [decide_eq_false hc, if_neg Bool.false_ne_true, Nat.le_antisymm hge (ht1.mpr (by omega))]
      exact ⟨r, rfl⟩

/-- one quotient digit computed by the monadic loop: exact, `< 2^64`, no panic in any profile -/
theorem corrLoop_digit (prof : Profile) (yn1 yn0 xn x32 : Nat) (hyn1 : 0 < yn1) (hyn1B : yn1 < U64_MOD)
    (hy0 : yn0 < U64_MOD) (hx : xn < U64_MOD) (hx32 : x32 < yn1 * U64_MOD + yn0) :
    ∃ r', corrLoop prof yn1 yn0 xn (x32 / yn1) (x32 % yn1) =
        .ok ((x32 * U64_MOD + xn) / (yn1 * U64_MOD + yn0), r') ∧
      (x32 * U64_MOD + xn) / (yn1 * U64_MOD + yn0) < U64_MOD := by
  obtain ⟨r', h⟩ := corrLoop_spec prof hyn1B hy0 hx hx32 rfl _ _ (Nat.div_add_mod' x32 yn1)
    (le_estimate hyn1 hx (Nat.div_mul_le_self _ _)) (lt_trans (Nat.mod_lt _ hyn1) hyn1B)
  exact ⟨r', h, digit_lt_base hx32 hx⟩

end Fpdec.Wide
