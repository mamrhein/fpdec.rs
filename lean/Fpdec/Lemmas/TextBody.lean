import Fpdec.Lemmas.Rounding
import Fpdec.Lemmas.Digits

/-! # The magnitude text `Spec.renderAbs`: what the model's pieces (`fmtInt`, `fmtZeroPad`, the floor division by a power of
ten) make of a magnitude -/

namespace Fpdec
open Fpdec.Model

theorem renderAbs_eq (m p : Nat) :
    Spec.renderAbs m p = Spec.digitsOf (m / 10 ^ p) ++
      (if p > 0 then [46] ++ List.replicate (p - (Spec.digitsOf (m % 10 ^ p)).length) 48 ++ Spec.digitsOf (m % 10 ^ p) else []) := by
  unfold Spec.renderAbs Spec.render
  rw [if_neg (by omega)]
  rfl

theorem render_eq (a : Int) (p : Nat) :
    Spec.render a p = (if a < 0 then [45] else []) ++ Spec.renderAbs a.natAbs p := by
  rw [renderAbs_eq]
  unfold Spec.render
  simp only [List.append_assoc]

theorem renderAbs_zero (m : Nat) : Spec.renderAbs m 0 = Spec.digitsOf m := by
  rw [renderAbs_eq]; simp

theorem fmtInt_eq (x : Int) : fmtInt x = (if x < 0 then [45] else []) ++ Spec.digitsOf x.natAbs := by
  unfold fmtInt
  rw [decDigits_eq]
  split <;> rfl

theorem fmtInt_natCast (n : Nat) : fmtInt (n : Int) = Spec.digitsOf n := by
  rw [fmtInt_eq, if_neg (by omega)]
  rfl

theorem fmtZeroPad_eq (n w : Nat) :
    fmtZeroPad n w = List.replicate (w - (Spec.digitsOf n).length) 48 ++ Spec.digitsOf n := by
  unfold fmtZeroPad
  rw [decDigits_eq]

theorem fmtZeroPad_isDig (n w : Nat) : ∀ c ∈ fmtZeroPad n w, Spec.isDig c = true := by
  intro c hc
  rw [fmtZeroPad_eq] at hc
  exact (List.mem_append.mp hc).elim (zeros_digits _ c) (digitsOf_isDig n c)

theorem fmtZeroPad_length {n w : Nat} (hw : 0 < w) (h : n < 10 ^ w) : (fmtZeroPad n w).length = w := by
  have := (digitsOf_length_le hw).mpr h
  rw [fmtZeroPad_eq, List.length_append, List.length_replicate]
  omega

theorem digitsVal_fmtZeroPad (n w : Nat) : Spec.digitsVal (fmtZeroPad n w) = n := by
  rw [fmtZeroPad_eq, digitsVal_append, digitsVal_replicate_zero, digitsVal_digitsOf]
  simp

theorem renderAbs_pos (m : Nat) {p : Nat} (hp : 0 < p) :
    Spec.renderAbs m p = Spec.digitsOf (m / 10 ^ p) ++ 46 :: fmtZeroPad (m % 10 ^ p) p := by
  rw [renderAbs_eq, if_pos hp, fmtZeroPad_eq]
  rfl

/-- `format!("{}.{:0P$}", int, frac)`, or `int.to_string()` when `P = 0`, where `int` and `frac` are the two parts of a magnitude
    `A` at `p` digits and `frac` has been scaled to `P ≥ p` digits: the text of `A` with `P` digits.  `String::from`, `Debug` and
    the four branches of `Display` all end here (`p = P` except where Display zero-extends); `g` is what they go on to do with
    the text. -/
theorem fmt_parts {β} (g : List Nat → β) (A p P : Nat) (h : p ≤ P) :
    (if P > 0 then g (fmtInt ((A / 10 ^ p : Nat) : Int) ++ [46] ++ fmtZeroPad (A % 10 ^ p * 10 ^ (P - p)) P)
      else g (fmtInt ((A / 10 ^ p : Nat) : Int))) = g (Spec.renderAbs (A * 10 ^ (P - p)) P) := by
  have e : 10 ^ P = 10 ^ p * 10 ^ (P - p) := by rw [← Nat.pow_add, Nat.add_sub_cancel' h]
  have hk : 0 < 10 ^ (P - p) := Nat.pow_pos (by decide)
  rw [renderAbs_eq, e, Nat.mul_div_mul_right _ _ hk, Nat.mul_mod_mul_right, fmtInt_natCast, fmtZeroPad_eq]
  by_cases hP : P > 0
  · rw [if_pos hP, if_pos hP, List.append_assoc, List.append_assoc]
  · rw [if_neg hP, if_neg hP, List.append_nil]

theorem fmt_parts_same {β} (g : List Nat → β) (A P : Nat) :
    (if P > 0 then g (fmtInt ((A / 10 ^ P : Nat) : Int) ++ [46] ++ fmtZeroPad (A % 10 ^ P) P)
      else g (fmtInt ((A / 10 ^ P : Nat) : Int))) = g (Spec.renderAbs A P) := by
  have h := fmt_parts g A P P (Nat.le_refl P)
  rwa [Nat.sub_self, Nat.pow_zero, Nat.mul_one, Nat.mul_one] at h

theorem sign_eq (a : Int) : (if a ≥ 0 then [] else [45] : List Nat) = if a < 0 then [45] else [] := by
  by_cases h : a < 0
  · rw [if_neg (Int.not_le.mpr h), if_pos h]
  · rw [if_pos (Int.not_lt.mp h), if_neg h]

/-- `i128_div_mod_floor(c, ten_pow(k))` of a magnitude: quotient and remainder are those of the naturals -/
theorem floorPow10 (prof : Profile) (C k : Nat) (hC : (C : Int) ≤ I128_MAX) (hk : k ≤ 38) :
    i128DivModFloor prof (C : Int) ((10 : Int) ^ k) = .ok (((C / 10 ^ k : Nat) : Int), ((C % 10 ^ k : Nat) : Int)) := by
  rw [i128DivModFloor_pos prof _ _ (fits_natCast hC) (pow10_pos k) (pow10_le_max hk)]
  simp

/-- `frac * ten_pow(P - p)` for a fraction of `p` digits stays below `10^P` -/
theorem scaleFrac_ok (prof : Profile) (A p P : Nat) (hP : p ≤ P) (hP38 : P ≤ 38) :
    plainI128 prof (((A % 10 ^ p : Nat) : Int) * (10 : Int) ^ (P - p)) = .ok ((A % 10 ^ p * 10 ^ (P - p) : Nat) : Int) := by
  have h : A % 10 ^ p * 10 ^ (P - p) < 10 ^ p * 10 ^ (P - p) :=
    Nat.mul_lt_mul_of_pos_right (Nat.mod_lt _ (Nat.pow_pos (by decide))) (Nat.pow_pos (by decide))
  rw [← Nat.pow_add, Nat.add_sub_cancel' hP] at h
  have h' : ((A % 10 ^ p * 10 ^ (P - p) : Nat) : Int) < (10 : Int) ^ P := by
    have := Int.ofNat_lt.mpr h; rwa [Int.natCast_pow] at this
  have e : ((A % 10 ^ p * 10 ^ (P - p) : Nat) : Int) = ((A % 10 ^ p : Nat) : Int) * (10 : Int) ^ (P - p) := by
    rw [Int.natCast_mul, Int.natCast_pow]; rfl
  rw [← e]
  exact plainI128_ok prof (fits_natCast (Int.le_trans (Int.le_of_lt h') (pow10_le_max hP38)))

end Fpdec
