import Fpdec.Lemmas.FromFloatTail
import Fpdec.Lemmas.FromFloatDecode

/-!
# C13 — f64 / f32 → Decimal

Model: `floatDecode`, `approxLoop`, `approxRational`, `tryFromFloat` in Fpdec/Model/Float.lean mirroring /repo/src/from_float.rs;
`normalize` (Model/Decimal.lean), `i128Magnitude` (Model/Core.lean).  The constants of the decode functions come from
`Gen.F64_DECODE` / `Gen.F32_DECODE` (generated).  Spec: `Spec.fromFloat` (Fpdec/Spec/Float.lean): exact value of the bit pattern
(`Spec.decodeBits`), rounded half-even to 18 fractional digits (`Spec.specRound .heven`), trailing zeros stripped (`Spec.normalizeSpec`).
`tryFromFloat_eq_spec`: the model is the function `toResult` of the spec.
-/

namespace Fpdec
open Fpdec.Model

/-- what the model returns, seen through the spec's type -/
def fromFloatOut : Outcome (Except FloatErr Dec) → Option Spec.FromFloatExp
  | .ok (.ok d) => some (.val d.coeff d.nfrac)
  | .ok (.error .infinite) => some .infinite
  | .ok (.error .nan) => some .nan
  | .ok (.error .overflow) => some .overflow
  | .panic _ => none

/-- agreement up to the one boundary value `-2^127` where the statement leaves value-or-overflow open -/
def fromFloatAllowed (e : Spec.FromFloatExp) (o : Option Spec.FromFloatExp) : Prop :=
  match e with
  | .valOrOvf c p => o = some (.val c p) ∨ o = some .overflow
  | e => o = some e

/-- a normal number: sign `s`, significand `S`, exponent `e`, value `num / den` -/
theorem tail_spec (prof : Profile) (is64 : Prop) [Decidable is64] (S : Nat) (e : Int) (s : Nat) {num den : Nat}
    (hv : (num, den) = if e ≥ 0 then (S * 2 ^ e.toNat, 1) else (S, 2 ^ (-e).toNat))
    (hs : s < 2) (hS0 : 2 ≤ S) (hS : S < 9007199254740992) (h32 : ¬ is64 → e < 128) :
    fromFloatTail prof is64 S e (1 - 2 * (s : Int)) =
      .ok (toResult (specOf (if s % 2 = 1 then -(num : Int) else num) den)) := by
  have hsg : (1 - 2 * (s : Int)) = 1 ∨ (1 - 2 * (s : Int)) = -1 := by omega
  have hn : ∀ x : Int, (if s % 2 = 1 then -x else x) = (1 - 2 * (s : Int)) * x := by
    intro x
    have : s = 0 ∨ s = 1 := by omega
    rcases this with rfl | rfl <;> simp
  rw [hn]
  by_cases he : e ≥ 0
  · rw [if_pos he] at hv
    cases hv
    rw [Int.natCast_mul, natCast_two_pow, Int.natCast_one, ← Int.mul_assoc]
    exact tail_int prof is64 S e _ hS0 hS hsg he h32
  · rw [if_neg he] at hv
    cases hv
    rw [natCast_two_pow]
    by_cases htiny : e < -126
    · obtain ⟨hb1, hb2, _⟩ := signed_bounds hS hsg
      rw [tail_tiny prof is64 S e _ htiny, specOf_tiny_pow _ _ hb1 hb2 (by omega)]
      rfl
    · exact tail_frac prof is64 S e _ (by omega) hS hsg (by omega) (by omega)

theorem fmt_facts {f : Spec.FloatFmt} (hf : f = .f64 ∨ f = .f32) :
    1 ≤ f.fracBits ∧ f.fracBits ≤ 52 ∧ f.expBits ≤ 11 ∧ 128 ≤ f.bias + f.fracBits ∧
    (¬ f.expBits = 11 → (2 : Int) ^ f.expBits - f.bias - f.fracBits < 130) := by
  rcases hf with rfl | rfl <;> decide

theorem tryFromFloat_eq_spec (prof : Profile) (f : Spec.FloatFmt) (hf : f = Spec.FloatFmt.f64 ∨ f = Spec.FloatFmt.f32)
    (bits : Nat) (hb : bits < 2 ^ f.bits) :
    tryFromFloat prof f bits = .ok (toResult (Spec.fromFloat f bits)) := by
  obtain ⟨hfb1, hfb, heb, hbias, hmax⟩ := fmt_facts hf
  have hfrac : bits % 2 ^ f.fracBits < 2 ^ f.fracBits := Nat.mod_lt _ (Nat.two_pow_pos _)
  have hbe : bits / 2 ^ f.fracBits % 2 ^ f.expBits < 2 ^ f.expBits := Nat.mod_lt _ (Nat.two_pow_pos _)
  have h52 : 2 ^ f.fracBits ≤ 4503599627370496 := Nat.pow_le_pow_right (by decide) hfb
  have h2 : 2 ^ 1 ≤ 2 ^ f.fracBits := Nat.pow_le_pow_right (by decide) hfb1
  rw [fromFloat_eq, tryFromFloat_eq, decodeBits_low]
  simp only [Nat.and_two_pow_sub_one_eq_mod, Nat.shiftRight_eq_div_pow, bits_sub_one]
  by_cases hnan : bits / 2 ^ f.fracBits % 2 ^ f.expBits = 2 ^ f.expBits - 1
  · by_cases hfr : bits % 2 ^ f.fracBits = 0
    · simp only [hnan, hfr, and_self, if_true]; rfl
    · simp only [hnan, hfr, and_false, if_true, if_false]; rfl
  · rw [floatDecode_fields (decodeConsts_eq hf) (by omega) bits hb]
    simp only [hnan, false_and, if_false]
    unfold Spec.decodeBits
    simp only [Nat.shiftRight_eq_div_pow]
    by_cases h0 : bits / 2 ^ f.fracBits % 2 ^ f.expBits = 0
    · -- zero and subnormals: below `2^52 / 2^127`
      obtain ⟨m, hm⟩ : ∃ m : Nat, (f.bias + f.fracBits - 1).toNat = m ∧ 127 ≤ m := ⟨_, rfl, by omega⟩
      simp only [h0, if_true, hm.1, natCast_two_pow, Outcome.bind_ok]
      rw [tail_zero, specOf_tiny_pow _ _ (by split <;> omega) (by split <;> omega) hm.2]
      rfl
    · simp only [h0, if_false, Outcome.bind_ok]
      exact tail_spec prof _ _ _ _ rfl (sign_lt_two hb) (by omega) (by omega) (fun h => by
        have := hmax h
        have := natCast_two_pow f.expBits
        omega)

/-- The spec under a flip of the sign bit (`b'` is the flipped pattern): a non-finite pattern keeps its verdict, a finite one gets the
    opposite coefficient with the same scale. -/
theorem fromFloat_xor_sign (f : Spec.FloatFmt) (bits : Nat) (hb : bits < 2 ^ f.bits) {b' : Nat}
    (h : b' = bits ^^^ 2 ^ (f.bits - 1)) :
    Spec.fromFloat f b' = Spec.fromFloat f bits ∧ (Spec.fromFloat f bits = .infinite ∨ Spec.fromFloat f bits = .nan) ∨
    ∃ (c : Int) (k : Nat), Spec.fromFloat f bits = expOf c k ∧ Spec.fromFloat f b' = expOf (-c) k := by
  obtain ⟨_, h2, h3, h4, h5⟩ := xor_sign_fields f bits hb h
  rw [fromFloat_eq, fromFloat_eq f bits, h2, h3, h4]
  by_cases hinf : (bits >>> f.fracBits) % 2 ^ f.expBits = 2 ^ f.expBits - 1
  · rw [if_pos hinf, if_pos hinf]
    exact .inl ⟨rfl, by split <;> simp⟩
  · rw [if_neg hinf, if_neg hinf]
    have hden := Int.natCast_pos.mpr (decodeBits_den_pos f (bits % 2 ^ (f.bits - 1)))
    by_cases hs : (bits >>> (f.bits - 1)) % 2 = 1
    · rw [if_pos hs, if_neg (fun h => h5.1 h hs)]
      obtain ⟨c, k, e1, e2⟩ := specOf_neg (-((Spec.decodeBits f (bits % 2 ^ (f.bits - 1))).1 : Int)) _ hden
      rw [Int.neg_neg] at e2
      exact .inr ⟨c, k, e1, e2⟩
    · rw [if_neg hs, if_pos (h5.2 hs)]
      exact .inr (specOf_neg _ _ hden)

end Fpdec
