import Fpdec.Lemmas.WideRound
import Mathlib.Tactic.Ring
import Mathlib.Tactic.Linarith

/-!
# The spec rounding under scaling

A common factor of dividend and divisor cancels (`specRound_scale`, `specRoundQ_scale`).  `specRound_two_step` is the correctness of
the divisor-scaled branch of `checked_div_rounded` as repaired for defect D7: with `q = ⌊a/b⌋`, `rem = a mod b` and an even `t`,
rounding `(2q+1)/(2t)` (for `rem ≠ 0`) resp. `q/t` (for `rem = 0`) is rounding `a/(b·t)` once; `specRoundQ_two_step`,
`specRoundQ_exact_step` say so for a divisor `b` of either sign, in terms of the floor division `Int.fdiv`, `Int.fmod` that
`i128_div_mod_floor` computes.

Nothing below uses the two Mathlib imports.  They stay because Props/C04 imports this file and two of its statements
(`div_rounded_ONE_value`, `gt_tail`) read `10 ^ n` with the instance these imports bring (`Monoid.toNPow`, not core's `Int.instNatPow`).
-/

namespace Fpdec
open Fpdec.Model

theorem specRound_scale (m : Mode) (n d k : Int) (hk : 0 < k) :
    Spec.specRound m (n * k) (d * k) = Spec.specRound m n d := by
  have e2 : n * k % (d * k) = n % d * k := by
    rw [Int.mul_comm n k, Int.mul_comm d k, Int.mul_emod_mul_of_pos n d hk, Int.mul_comm]
  have e3 : 2 * (n % d * k) = 2 * (n % d) * k := (Int.mul_assoc ..).symm
  apply specRound_congr
  · exact Int.mul_ediv_mul_of_pos_left n d hk
  · rw [e2, Int.mul_eq_zero]; omega
  · exact Int.mul_nonneg_iff_of_pos_right hk
  · rw [e2, e3, Int.mul_lt_mul_right hk]
  · rw [e2, e3]; exact Int.mul_lt_mul_right hk

theorem specRoundQ_neg_neg (m : Mode) (n : Int) {d : Int} (hd : d ≠ 0) : Spec.specRoundQ m (-n) (-d) = Spec.specRoundQ m n d := by
  rcases Int.lt_or_gt_of_ne hd with h | h
  · rw [specRoundQ_neg m n h, specRoundQ_pos m _ (by omega)]
  · rw [specRoundQ_pos m n h, specRoundQ_neg m _ (by omega), Int.neg_neg, Int.neg_neg]

theorem specRoundQ_scale (m : Mode) (n d k : Int) (hd : d ≠ 0) (hk : k ≠ 0) :
    Spec.specRoundQ m (n * k) (d * k) = Spec.specRoundQ m n d := by
  have pos : ∀ n d k : Int, d ≠ 0 → 0 < k → Spec.specRoundQ m (n * k) (d * k) = Spec.specRoundQ m n d := by
    intro n d k hd hk
    rcases Int.lt_or_gt_of_ne hd with h | h
    · rw [specRoundQ_neg m n h, specRoundQ_neg m _ (Int.mul_neg_of_neg_of_pos h hk), ← Int.neg_mul, ← Int.neg_mul]
      exact specRound_scale m (-n) (-d) k hk
    · rw [specRoundQ_pos m n h, specRoundQ_pos m _ (Int.mul_pos h hk)]
      exact specRound_scale m n d k hk
  rcases Int.lt_or_gt_of_ne hk with h | h
  · rw [← specRoundQ_neg_neg m _ (Int.mul_ne_zero hd hk), ← Int.mul_neg, ← Int.mul_neg]
    exact pos n d (-k) hd (by omega)
  · exact pos n d k hd h

/-- inexact first division: replace the fractional part of the first quotient by one half -/
theorem specRound_two_step (m : Mode) (a b t : Int) (hb : 0 < b) (ht : 0 < t) (heven : t % 2 = 0)
    (hrem : a % b ≠ 0) :
    Spec.specRound m (2 * (a / b) + 1) (2 * t) = Spec.specRound m a (b * t) := by
  -- with `q = a / b = t·Q + ρ`: both quotients have the floor `Q`; the remainders are `2ρ + 1` of `2t` and `b·ρ + a % b` of `b·t`
  have hr0 := Int.emod_nonneg a (Int.ne_of_gt hb)
  have hr1 := Int.emod_lt_of_pos a hb
  have hρ0 := Int.emod_nonneg (a / b) (Int.ne_of_gt ht)
  have hab := Int.mul_ediv_add_emod a b
  have fL : (2 * (a / b) + 1) / (2 * t) = a / b / t := by
    rw [← Int.ediv_ediv_of_nonneg (by omega)]; congr 1; omega
  have fR : a / (b * t) = a / b / t := (Int.ediv_ediv_of_nonneg (Int.le_of_lt hb)).symm
  have rL : (2 * (a / b) + 1) % (2 * t) = 2 * (a / b % t) + 1 := by
    rw [Int.emod_def, fL, Int.emod_def (a / b) t, Int.mul_assoc]; omega
  have rR : a % (b * t) = b * (a / b % t) + a % b := by
    rw [Int.emod_def a (b * t), fR, Int.emod_def (a / b) t, Int.mul_sub, Int.mul_assoc]; omega
  have hs : 2 * (a / b) + 1 ≥ 0 ↔ a ≥ 0 := by
    constructor
    · intro h; have := Int.mul_nonneg (Int.le_of_lt hb) (show 0 ≤ a / b by omega); omega
    · intro h; have := Int.ediv_nonneg h (Int.le_of_lt hb); omega
  -- `ρ + ε` with `0 < ε < 1` lies on the same side of the integer `t / 2` as `ρ + 1/2`, and never on it
  have m1 : 2 * (a / b % t) + 2 ≤ t → b * (2 * (a / b % t) + 2) ≤ b * t := fun h => Int.mul_le_mul_of_nonneg_left h (Int.le_of_lt hb)
  have m2 : t ≤ 2 * (a / b % t) → b * t ≤ b * (2 * (a / b % t)) := fun h => Int.mul_le_mul_of_nonneg_left h (Int.le_of_lt hb)
  have hp : 0 ≤ b * (a / b % t) := Int.mul_nonneg (Int.le_of_lt hb) hρ0
  rw [Int.mul_add, Int.mul_left_comm, Int.mul_comm b 2] at m1
  rw [Int.mul_left_comm] at m2
  refine specRound_congr m _ _ _ _ (fL.trans fR.symm) ?_ hs ?_ ?_ <;> rw [rL, rR]
  all_goals
    clear fL fR rL rR hs hab
    generalize a / b % t = ρ at *
    generalize b * ρ = P at *
    generalize a % b = r at *
    generalize b * t = bt at *
    omega

/-- the divisor-scaled branch of `checked_div_rounded`, exact first division -/
theorem specRoundQ_exact_step (m : Mode) (a : Int) {b t : Int} (hb : b ≠ 0) (ht : 0 < t) (h : a.fmod b = 0) :
    Spec.specRound m (a.fdiv b) t = Spec.specRoundQ m a (b * t) := by
  have e : a = a.fdiv b * b := by have := Int.fdiv_mul_add_fmod a b; omega
  rw [Int.mul_comm b t]
  conv => rhs; rw [e]
  rw [specRoundQ_scale m _ t b (Int.ne_of_gt ht) hb, specRoundQ_pos m _ ht]

/-- … and inexact first division -/
theorem specRoundQ_two_step (m : Mode) (a : Int) {b t : Int} (hb : b ≠ 0) (ht : 0 < t) (heven : t % 2 = 0) (h : a.fmod b ≠ 0) :
    Spec.specRound m (2 * a.fdiv b + 1) (2 * t) = Spec.specRoundQ m a (b * t) := by
  rcases Int.lt_or_gt_of_ne hb with hs | hs
  · obtain ⟨e1, e2⟩ := fdiv_fmod_neg a hs
    rw [specRoundQ_neg m a (Int.mul_neg_of_neg_of_pos hs ht), ← Int.neg_mul, e1]
    exact specRound_two_step m (-a) (-b) t (by omega) ht heven (by omega)
  · rw [specRoundQ_pos m a (Int.mul_pos hs ht), Int.fdiv_eq_ediv_of_nonneg a (Int.le_of_lt hs)]
    rw [Int.fmod_eq_emod_of_nonneg a (Int.le_of_lt hs)] at h
    exact specRound_two_step m a b t hs ht heven h

end Fpdec
