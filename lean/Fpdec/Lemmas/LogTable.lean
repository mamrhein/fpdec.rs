import Fpdec.Model.Core

/-!
# The `less_than_5` bit trick of int_log10

Each constant is `m·2^17 − t` for a threshold `t ∈ {10, 100, 1000, 10000}`, so the bits of `v + C` above bit 17 are `m`
once `v` has reached `t` and `m − 1` before; the `&&&`/`^^^` of the four small words counts the thresholds passed.
-/

namespace Fpdec
open Fpdec.Model

theorem add_const_shiftRight {s v t m : Nat} (hv : v < 2 ^ s) (ht : t ≤ 2 ^ s) (hm : 0 < m) :
    (v + (m * 2 ^ s - t)) >>> s = if v < t then m - 1 else m := by
  obtain ⟨m, rfl⟩ : ∃ k, m = k + 1 := ⟨m - 1, by omega⟩
  rw [Nat.shiftRight_eq_div_pow]
  split <;> apply Nat.div_eq_of_lt_le <;> simp only [Nat.succ_mul, Nat.add_sub_cancel] <;> omega

/-- `⌊log10 v⌋` for `v < 100000`, by thresholds -/
theorem lessThan5_spec (v : Nat) (h : v < 100000) :
    lessThan5 v = if v < 10 then 0 else if v < 100 then 1 else if v < 1000 then 2 else if v < 10000 then 3 else 4 := by
  have hv : v < 2 ^ 17 := by omega
  unfold lessThan5
  rw [Nat.shiftRight_xor_distrib, Nat.shiftRight_and_distrib, Nat.shiftRight_and_distrib,
    show Gen.LOG_LT5_C1 = 3 * 2 ^ 17 - 10 by decide, show Gen.LOG_LT5_C2 = 4 * 2 ^ 17 - 100 by decide,
    show Gen.LOG_LT5_C3 = 7 * 2 ^ 17 - 1000 by decide, show Gen.LOG_LT5_C4 = 4 * 2 ^ 17 - 10000 by decide,
    add_const_shiftRight hv (by decide) (by decide), add_const_shiftRight hv (by decide) (by decide),
    add_const_shiftRight hv (by decide) (by decide), add_const_shiftRight hv (by decide) (by decide)]
  -- `(if v<10 then 2 else 3) &&& (if v<100 then 3 else 4) ^^^ (if v<1000 then 6 else 7) &&& (if v<10000 then 3 else 4)`
  repeat' split
  all_goals first | omega | decide

end Fpdec
