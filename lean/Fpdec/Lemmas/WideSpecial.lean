import Fpdec.Lemmas.WideMsb
import Fpdec.Lemmas.IntTy
import Fpdec.Lemmas.WideCorrLoop

/-!
# C16 — `u256_idiv_u128_special`: Knuth's algorithm D for a 4-digit by 2-digit division (base 2^64) WITHOUT add-back

Model: `corrCond`, `corrLoop`, `u256IdivU128Special`, `u128Msb` in Fpdec/Model/Core.lean (mirror of fpdec-core/src/lib.rs).
Proved: normalisation loses no bits, each of the two quotient digits is exact after the correction loop (so no add-back is
needed), the wrapping subtractions equal the true partial remainders, the de-normalised remainder is the true remainder, and no
plain operation (`plainU128 prof`, `plainU8 prof`, `debugAssert prof`) overflows/fails — for every profile.
-/

namespace Fpdec.Wide
open Fpdec Fpdec.Model

/-- the part of `u256IdivU128Special` after normalisation, with the normalised operands as parameters -/
def specialTail (prof : Profile) (y xn32 xn10 nBits : Nat) : Outcome (Nat × Nat × Nat) := do
  let B := U64_MOD
  let yn1 := u128Hi y
  let yn0 := u128Lo y
  let xn1 := u128Hi xn10
  let xn0 := u128Lo xn10
  if yn1 = 0 then .panic .rdivzero else
  let q1 := xn32 / yn1
  let rhat := xn32 % yn1
  let (q1, _) ← corrLoop prof yn1 yn0 xn1 q1 rhat
  let t := wrapU128 (wrapU128 (wrapU128 (xn32 * B) + xn1) + U128_MOD - wrapU128 (q1 * y))
  let q0 := t / yn1
  let rhat := t % yn1
  let (q0, _) ← corrLoop prof yn1 yn0 xn0 q0 rhat
  let xl1 ← plainU128 prof (q1 * B)
  let xl' ← plainU128 prof (xl1 + q0)
  let r := wrapU128 (wrapU128 (wrapU128 (t * B) + xn0) + U128_MOD - wrapU128 (q0 * y))
  pure (0, xl', r >>> nBits)

theorem special_eq_tail (prof : Profile) (xh xl y : Nat) :
    u256IdivU128Special prof xh xl y =
      (debugAssert prof (decide (xh < y)) >>= fun _ =>
        u128Msb prof y >>= fun msb =>
        plainU8 prof (127 - (msb : Int)) >>= fun nBits =>
        specialTail prof (wrapU128 (y <<< nBits))
          (wrapU128 (xh <<< nBits) ||| (if nBits = 0 then 0 else xl >>> (128 - nBits)))
          (wrapU128 (xl <<< nBits)) nBits) := by
  unfold u256IdivU128Special specialTail
  rfl

theorem specialTail_spec (prof : Profile) (y xn32 xn10 n : Nat) (hy1 : U64_MOD ≤ y) (hy2 : y < U128_MOD)
    (hx32 : xn32 < y) (hx10 : xn10 < U128_MOD) :
    specialTail prof y xn32 xn10 n =
      .ok (0, (xn32 * U128_MOD + xn10) / y, ((xn32 * U128_MOD + xn10) % y) >>> n) := by
  unfold specialTail
  simp only [u128Hi_eq, u128Lo_eq]
  have hy := Nat.div_add_mod' y U64_MOD
  have hy0 := Nat.mod_lt y U64_MOD_pos
  have hxd := Nat.div_add_mod' xn10 U64_MOD
  have hx0 := Nat.mod_lt xn10 U64_MOD_pos
  have hyn1 : 0 < y / U64_MOD := Nat.div_pos hy1 U64_MOD_pos
  have hyn1B := hi_lt hy2
  have hxn1B := hi_lt hx10
  have hypos : 0 < y := Nat.lt_of_lt_of_le U64_MOD_pos hy1
  generalize y / U64_MOD = yn1 at *
  generalize y % U64_MOD = yn0 at *
  generalize xn10 / U64_MOD = xn1 at *
  generalize xn10 % U64_MOD = xn0 at *
  rw [if_neg (Nat.ne_of_gt hyn1)]
  obtain ⟨r1, hd1, hQ1⟩ := corrLoop_digit prof yn1 yn0 xn1 xn32 hyn1 hyn1B hy0 hxn1B (hy ▸ hx32)
  have hT1 := Nat.mod_lt (xn32 * U64_MOD + xn1) hypos
  rw [hy] at hd1 hQ1
  rw [hd1, Outcome.bind_ok, wrap_sub_mod _ _ _ (lt_trans hT1 hy2)]
  have s := div_step U64_MOD y (xn32 * U64_MOD + xn1) xn0 hypos
  rw [Nat.add_mul, Nat.mul_assoc, ← U128_eq, Nat.add_assoc, hxd] at s
  generalize (xn32 * U64_MOD + xn1) / y = Q1 at *
  generalize (xn32 * U64_MOD + xn1) % y = T1 at *
  obtain ⟨r0, hd0, hQ0⟩ := corrLoop_digit prof yn1 yn0 xn0 T1 hyn1 hyn1B hy0 hx0 (hy ▸ hT1)
  rw [hy] at hd0 hQ0
  rw [hd0, Outcome.bind_ok, wrap_sub_mod _ _ _ (lt_trans (Nat.mod_lt _ hypos) hy2), s.1, s.2]
  -- write back: `q1 * B + q0` does not overflow
  have hql := lt_base2 hQ1 hQ0
  rw [← Int.natCast_mul, plainU128_nat prof (Nat.lt_of_le_of_lt (Nat.le_add_right _ _) hql), Outcome.bind_ok,
    ← Int.natCast_add, plainU128_nat prof hql, Outcome.bind_ok, Outcome.pure_eq]

/-- arithmetic of the normalisation shift, `P = 2^n`, `Q = 2^(128-n)`, `M = 2^128` generic -/
theorem norm_arith (P Q M xh xl y : Nat) (hP : 0 < P) (hQ : 0 < Q) (hM : P * Q = M) (hxh : xh < y) (hxl : xl < M) :
    xl / Q < P ∧ xh * P + xl / Q < y * P ∧ (xl % Q) * P < M ∧
    (xh * P + xl / Q) * M + (xl % Q) * P = (xh * M + xl) * P := by
  have hd := Nat.div_add_mod xl Q
  have hm := Nat.mod_lt xl hQ
  have h1 : xl / Q < P := by
    rw [Nat.div_lt_iff_lt_mul hQ, hM]; exact hxl
  generalize xl / Q = d at *
  generalize xl % Q = r at *
  refine ⟨h1, ?_, ?_, ?_⟩
  · have : (xh + 1) * P ≤ y * P := Nat.mul_le_mul_right P hxh
    rw [Nat.add_mul, Nat.one_mul] at this
    omega
  · have : r * P < Q * P := Nat.mul_lt_mul_of_pos_right hm hP
    rw [← hM, Nat.mul_comm P Q]; exact this
  · subst hM; subst hd; ring

/-- normalisation by `n` bits multiplies divisor and dividend by `2^n` and loses no bit -/
theorem norm_shifts (xh xl y n : Nat) (hn : n ≤ 127) (hyP : y * 2 ^ n < U128_MOD) (hxh : xh < y)
    (hxl : xl < U128_MOD) :
    ∃ xn32 xn10, wrapU128 (y <<< n) = y * 2 ^ n ∧
      (wrapU128 (xh <<< n) ||| (if n = 0 then 0 else xl >>> (128 - n))) = xn32 ∧ wrapU128 (xl <<< n) = xn10 ∧
      xn32 < y * 2 ^ n ∧ xn10 < U128_MOD ∧ xn32 * U128_MOD + xn10 = (xh * U128_MOD + xl) * 2 ^ n := by
  have hP : 0 < 2 ^ n := Nat.two_pow_pos n
  have hQ : 0 < 2 ^ (128 - n) := Nat.two_pow_pos _
  have hM : 2 ^ n * 2 ^ (128 - n) = U128_MOD := by
    rw [← Nat.pow_add, Nat.add_sub_cancel' (Nat.le_succ_of_le hn), U128_pow]
  obtain ⟨a1, a2, a3, a4⟩ := norm_arith (2 ^ n) (2 ^ (128 - n)) U128_MOD xh xl y hP hQ hM hxh hxl
  refine ⟨_, _, ?_, ?_, ?_, a2, a3, a4⟩
  · rw [wrapU128_eq, Nat.shiftLeft_eq, Nat.mod_eq_of_lt hyP]
  · have hsh : (if n = 0 then 0 else xl >>> (128 - n)) = xl / 2 ^ (128 - n) := by
      split
      next h0 =>
        subst h0
        rw [Nat.div_eq_of_lt]
        rw [← U128_pow]; exact hxl
      next h0 => rw [Nat.shiftRight_eq_div_pow]
    have hxP : xh * 2 ^ n < U128_MOD := lt_trans (Nat.mul_lt_mul_of_pos_right hxh hP) hyP
    rw [hsh, wrapU128_eq, Nat.shiftLeft_eq, Nat.mod_eq_of_lt hxP, ← Nat.shiftLeft_eq,
      ← Nat.shiftLeft_add_eq_or_of_lt a1]
  · rw [wrapU128_eq, Nat.shiftLeft_eq, ← hM, Nat.mul_comm (2 ^ n) (2 ^ (128 - n)), Nat.mul_mod_mul_right]

/-- with `n = 127 - msb` the shifted divisor has its top bit set -/
theorem norm_top_bit (y msb : Nat) (hm : msb ≤ 127) (hlo : 2 ^ msb ≤ y) : 2 ^ 127 ≤ y * 2 ^ (127 - msb) := by
  have h := Nat.mul_le_mul_right (2 ^ (127 - msb)) hlo
  rwa [← Nat.pow_add, Nat.add_sub_cancel' hm] at h

end Fpdec.Wide

namespace Fpdec
open Fpdec.Model Fpdec.Wide

/-- any divisor `0 < y < 2^128`: after normalisation its top bit is set (`norm_top_bit`); the two Knuth steps need only a non-zero top digit -/
theorem u256IdivU128Special_eq (prof : Profile) (xh xl y : Nat) (hy2 : y < U128_MOD)
    (hxh : xh < y) (hxl : xl < U128_MOD) :
    u256IdivU128Special prof xh xl y = .ok (0, (xh * U128_MOD + xl) / y, (xh * U128_MOD + xl) % y) := by
  have hy0 : 0 < y := Nat.zero_lt_of_lt hxh
  have hmsb := log2_lt_128 hy0 hy2
  rw [special_eq_tail, decide_eq_true hxh, debugAssert_true, Outcome.bind_ok, u128Msb_eq_log2 prof y hy0 hy2, Outcome.bind_ok,
    plainU8_natSub prof 127 y.log2 127 rfl (by decide) (by omega), Outcome.bind_ok]
  have hP : 0 < 2 ^ (127 - y.log2) := Nat.two_pow_pos _
  have hyP : y * 2 ^ (127 - y.log2) < U128_MOD := by
    have h1 := Nat.mul_lt_mul_of_pos_right (Nat.lt_log2_self (n := y)) hP
    rwa [← Nat.pow_add, show y.log2 + 1 + (127 - y.log2) = 128 by omega, ← U128_pow] at h1
  obtain ⟨xn32, xn10, s1, s2, s3, a2, a3, a4⟩ := norm_shifts xh xl y (127 - y.log2) (by omega) hyP hxh hxl
  rw [s1, s2, s3, specialTail_spec prof _ _ _ _ (le_trans (by decide) (norm_top_bit y _ (by omega) (Nat.log2_self_le (Nat.ne_of_gt hy0)))) hyP a2 a3,
    a4, Nat.mul_div_mul_right _ _ hP, Nat.mul_mod_mul_right, Nat.shiftRight_eq_div_pow,
    Nat.mul_div_cancel _ hP]

end Fpdec
