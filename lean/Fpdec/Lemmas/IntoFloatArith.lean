import Fpdec.Spec.Float
import Mathlib.Tactic.Ring

/-!
# Pure arithmetic behind `Float::from_decimal` (no model terms here)

`rhe` through `rhe_eq` / `rhe_spec`; the guard-and-sticky rounding of a quotient (`rhe_of_quot`, `guard`); `floorLog2Ratio`
through `le_floorLog2Ratio_iff` (`2^(a-b) ≤ num/den ↔ a - b ≤ floorLog2Ratio num den`); and `rneBits_spec`, through which everything
else uses `rneBits`.
-/

namespace Fpdec.FloatArith
open Fpdec Fpdec.Spec

theorem log2_mul_two_pow {n : Nat} (h : n ≠ 0) (s : Nat) : (n * 2 ^ s).log2 = n.log2 + s := by
  have hp : 0 < 2 ^ s := Nat.two_pow_pos s
  rw [Nat.log2_eq_iff (Nat.mul_ne_zero h (Nat.ne_of_gt hp))]
  have h1 := Nat.log2_self_le h
  have h2 := @Nat.lt_log2_self n
  constructor
  · rw [Nat.pow_add]; exact Nat.mul_le_mul_right _ h1
  · rw [show n.log2 + s + 1 = n.log2 + 1 + s by omega, Nat.pow_add]
    exact Nat.mul_lt_mul_of_pos_right h2 hp

theorem lt_of_log2_lt {x y : Nat} (hy : y ≠ 0) (h : x.log2 < y.log2) : x < y :=
  Nat.lt_of_lt_of_le Nat.lt_log2_self (Nat.le_trans (Nat.pow_le_pow_right (by decide) h) (Nat.log2_self_le hy))

theorem quot_range {N D add : Nat} (hN : N ≠ 0) (hD : D ≠ 0) (ha : 1 ≤ add)
    (h : N.log2 = D.log2 + add) : 2 ^ (add - 1) ≤ N / D ∧ N / D < 2 ^ (add + 1) := by
  have hDpos : 0 < D := Nat.pos_of_ne_zero hD
  constructor
  · rw [Nat.le_div_iff_mul_le hDpos, Nat.mul_comm]
    exact Nat.le_of_lt (lt_of_log2_lt hN (by rw [log2_mul_two_pow hD]; omega))
  · rw [Nat.div_lt_iff_lt_mul hDpos, Nat.mul_comm]
    exact lt_of_log2_lt (Nat.mul_ne_zero hD (Nat.ne_of_gt (Nat.two_pow_pos _))) (by rw [log2_mul_two_pow hD]; omega)

theorem rhe_eq (n d : Nat) :
    rhe n d = n / d + if 2 * (n % d) > d ∨ (2 * (n % d) = d ∧ n / d % 2 = 1) then 1 else 0 := by
  unfold rhe
  dsimp only
  split
  · rw [if_pos (.inl ‹_›)]
  · split
    · rw [if_neg (by omega)]; rfl
    · split
      · rw [if_neg (by omega)]; rfl
      · rw [if_pos (by omega)]

/-- the defining property in product form (`m = rhe n d`): `|2n - 2md| ≤ d`, and `m` is even when that is an equality -/
theorem rhe_spec (n d : Nat) (hd : 0 < d) :
    2 * (rhe n d * d) ≤ 2 * n + d ∧ 2 * n ≤ 2 * (rhe n d * d) + d ∧
    ((2 * (rhe n d * d) = 2 * n + d ∨ 2 * n = 2 * (rhe n d * d) + d) → rhe n d % 2 = 0) := by
  have h1 := Nat.div_add_mod n d
  have h2 := Nat.mod_lt n hd
  rw [Nat.mul_comm] at h1
  rw [rhe_eq]
  split
  · rw [Nat.add_mul, Nat.one_mul]; omega
  · rw [Nat.add_zero]; omega

theorem rhe_nearest (n d k : Nat) (hd : 0 < d) :
    ((n : Int) - (rhe n d * d : Nat)).natAbs ≤ ((n : Int) - (k * d : Nat)).natAbs ∧
    (((n : Int) - (rhe n d * d : Nat)).natAbs = ((n : Int) - (k * d : Nat)).natAbs → k ≠ rhe n d → rhe n d % 2 = 0) := by
  obtain ⟨h1, h2, h3⟩ := rhe_spec n d hd
  -- another multiple of `d` is at least `d` away from `rhe n d * d`, which is at most `d/2` away from `n`
  rcases Nat.lt_trichotomy k (rhe n d) with h | h | h
  · have := Nat.mul_le_mul_right d (Nat.succ_le_of_lt h)
    rw [Nat.succ_mul] at this
    omega
  · subst h; exact ⟨Nat.le_refl _, fun _ h => absurd rfl h⟩
  · have := Nat.mul_le_mul_right d (Nat.succ_le_of_lt h)
    rw [Nat.succ_mul] at this
    omega

theorem ite_le_one (p : Prop) [Decidable p] : (if p then 1 else 0 : Nat) ≤ 1 := by
  split <;> omega

theorem rhe_ge (n d c : Nat) (hd : 0 < d) (h : d * c ≤ n) : c ≤ rhe n d := by
  rw [rhe_eq]
  exact Nat.le_add_right_of_le ((Nat.le_div_iff_mul_le hd).2 (by rw [Nat.mul_comm]; exact h))

theorem rhe_le (n d c : Nat) (hd : 0 < d) (h : n < d * c) : rhe n d ≤ c := by
  rw [rhe_eq]
  exact Nat.le_trans (Nat.add_le_add_left (ite_le_one _) _) ((Nat.div_lt_iff_lt_mul hd).2 (by rw [Nat.mul_comm]; exact h))

/-- `n/d < c - 1/2` is rounded to less than `c` -/
theorem rhe_lt (n d c : Nat) (hd : 0 < d) (h : 2 * n + d < 2 * (d * c)) : rhe n d < c := by
  obtain ⟨h1, -, -⟩ := rhe_spec n d hd
  exact Nat.lt_of_mul_lt_mul_right (a := d) (by rw [Nat.mul_comm c d]; omega)

theorem rhe_mul_right (n d k : Nat) (hk : 0 < k) : rhe (n * k) (d * k) = rhe n d := by
  unfold rhe
  have e1 : n * k / (d * k) = n / d := Nat.mul_div_mul_right n d hk
  have e2 : n * k % (d * k) = n % d * k := Nat.mul_mod_mul_right k n d
  have e3 : (2 * (n % d * k) > d * k) ↔ (2 * (n % d) > d) := by
    rw [← Nat.mul_assoc]; exact Nat.mul_lt_mul_right hk
  have e4 : (2 * (n % d * k) < d * k) ↔ (2 * (n % d) < d) := by
    rw [← Nat.mul_assoc]; exact Nat.mul_lt_mul_right hk
  simp only [e1, e2, e3, e4]

/-- the spec's two-sided scaling against a quotient of two shifted operands -/
theorem rhe_shift (num den s u : Nat) :
    rhe (num * 2 ^ s) (den * 2 ^ u) =
      if (u : Int) - s ≥ 0 then rhe num (den * 2 ^ ((u : Int) - s).toNat)
      else rhe (num * 2 ^ (-((u : Int) - s)).toNat) den := by
  by_cases h : s ≤ u
  · have h1 : (u : Int) - s ≥ 0 := by omega
    have h2 : ((u : Int) - s).toNat = u - s := by omega
    rw [if_pos h1, h2]
    have : den * 2 ^ u = den * 2 ^ (u - s) * 2 ^ s := by
      rw [Nat.mul_assoc, ← Nat.pow_add]; congr 2; omega
    rw [this, rhe_mul_right _ _ _ (Nat.two_pow_pos s)]
  · have h1 : ¬ ((u : Int) - s ≥ 0) := by omega
    have h2 : (-((u : Int) - s)).toNat = s - u := by omega
    rw [if_neg h1, h2]
    have : num * 2 ^ s = num * 2 ^ (s - u) * 2 ^ u := by
      rw [Nat.mul_assoc, ← Nat.pow_add]; congr 2; omega
    rw [this, rhe_mul_right _ _ _ (Nat.two_pow_pos u)]

/-- rounding `N / (D·2^k)` from `q = N / D`: the `k` low bits of `q` against half (`2^(k-1)`), with `N % D ≠ 0` as the sticky bit -/
theorem rhe_of_quot (N D k : Nat) (hD : 0 < D) (hk : 1 ≤ k) :
    rhe N (D * 2 ^ k) = N / D / 2 ^ k +
      (if N / D % 2 ^ k > 2 ^ (k - 1) ∨ (N / D % 2 ^ k = 2 ^ (k - 1) ∧ (N % D ≠ 0 ∨ N / D / 2 ^ k % 2 = 1)) then 1 else 0) := by
  have h1 : N / (D * 2 ^ k) = N / D / 2 ^ k := (Nat.div_div_eq_div_mul ..).symm
  have h2 : N % (D * 2 ^ k) = N % D + D * (N / D % 2 ^ k) := Nat.mod_mul
  have hr : N % D < D := Nat.mod_lt _ hD
  have hP : D * 2 ^ k = 2 * (D * 2 ^ (k - 1)) := by
    obtain ⟨j, rfl⟩ : ∃ j, k = j + 1 := ⟨k - 1, by omega⟩
    rw [Nat.add_sub_cancel, Nat.pow_succ, Nat.mul_comm _ 2, Nat.mul_left_comm]
  rw [rhe_eq, h1, h2, hP]
  refine congrArg _ (if_congr ?_ rfl rfl)
  generalize N / D % 2 ^ k = low
  generalize 2 ^ (k - 1) = half
  -- compare `r + D·low` with `D·half`, where `r < D`
  rcases Nat.lt_trichotomy low half with h | h | h
  · have := Nat.mul_le_mul_left D (Nat.succ_le_of_lt h)
    rw [Nat.mul_succ] at this
    omega
  · subst h; omega
  · have := Nat.mul_le_mul_left D (Nat.succ_le_of_lt h)
    rw [Nat.mul_succ] at this
    omega

theorem or_one (x : Nat) : x ||| 1 = 2 * (x / 2) + 1 := by
  have h1 : (x ||| 1) / 2 = x / 2 := by rw [Nat.or_div_two]; exact Nat.or_zero _
  have h2 : (x ||| 1) % 2 = 1 := Nat.or_mod_two_eq_one.2 (.inr rfl)
  omega

/-- `rhe_of_quot` in the shape the implementation uses: `3 - adj` extra bits taken by a mask and shifted left by `adj` so that half is
    always `4`, the sticky bit or-ed into the lowest position (free after the shift, and of no consequence without it) -/
theorem guard (N D adj : Nat) (hD : 0 < D) (hadj : adj ≤ 1) :
    ∃ inc : Nat, inc ≤ 1 ∧
      (if ((((N / D &&& (2 ^ (3 - adj) - 1)) % 2 ^ 32) <<< adj) ||| (if N % D ≠ 0 then 1 else 0)) > 4 ∨
        (((((N / D &&& (2 ^ (3 - adj) - 1)) % 2 ^ 32) <<< adj) ||| (if N % D ≠ 0 then 1 else 0)) = 4 ∧
          N / D / 2 ^ (3 - adj) % 2 = 1) then 1 else 0) = inc ∧
      N / D / 2 ^ (3 - adj) + inc = rhe N (D * 2 ^ (3 - adj)) := by
  refine ⟨_, ite_le_one _, rfl, ?_⟩
  rw [rhe_of_quot N D (3 - adj) hD (by omega), Nat.and_two_pow_sub_one_eq_mod]
  refine congrArg _ (if_congr ?_ rfl rfl)
  have hl : N / D % 2 ^ (3 - adj) < 2 ^ (3 - adj) := Nat.mod_lt _ (Nat.two_pow_pos _)
  generalize N / D % 2 ^ (3 - adj) = low at *
  generalize N / D / 2 ^ (3 - adj) % 2 = par
  have h32 : low % 2 ^ 32 = low :=
    Nat.mod_eq_of_lt (Nat.lt_of_lt_of_le hl (Nat.pow_le_pow_right (by decide) (by omega)))
  rw [h32, Nat.shiftLeft_eq]
  have hadj : adj = 0 ∨ adj = 1 := by omega
  rcases hadj with rfl | rfl
  · split
    · rw [or_one]; omega
    · rw [Nat.or_zero]; omega
  · split
    · rw [or_one]; omega
    · rw [Nat.or_zero]; omega

theorem floorLog2Ratio_mem (num den : Nat) :
    (num.log2 : Int) - den.log2 - 1 ≤ floorLog2Ratio num den ∧ floorLog2Ratio num den ≤ (num.log2 : Int) - den.log2 := by
  unfold floorLog2Ratio
  dsimp only
  split <;> omega

/-- where `den·2^a` and `num·2^b` have the same number of bits, the test in the definition compares exactly these two -/
theorem floorLog2Ratio_of_log2_eq (num den a b : Nat) (h : den.log2 + a = num.log2 + b) :
    floorLog2Ratio num den = if den * 2 ^ a ≤ num * 2 ^ b then (a : Int) - b else (a : Int) - b - 1 := by
  unfold floorLog2Ratio
  rw [show (num.log2 : Int) - den.log2 = (a : Int) - b by omega]
  by_cases h0 : (a : Int) - b ≥ 0
  · obtain ⟨k, rfl⟩ : ∃ k, a = k + b := ⟨a - b, by omega⟩
    simp only [if_pos h0, decide_eq_true_iff]
    rw [show ((k + b : Nat) : Int) - b = k by omega, Int.toNat_natCast, Nat.pow_add, ← Nat.mul_assoc]
    exact (if_congr (Nat.mul_le_mul_right_iff (Nat.two_pow_pos b)) rfl rfl).symm
  · obtain ⟨k, rfl⟩ : ∃ k, b = k + a := ⟨b - a, by omega⟩
    simp only [if_neg h0, decide_eq_true_iff]
    rw [show (-((a : Int) - (k + a : Nat))).toNat = k by omega, Nat.pow_add, ← Nat.mul_assoc]
    exact (if_congr (Nat.mul_le_mul_right_iff (Nat.two_pow_pos a)) rfl rfl).symm

/-- `floorLog2Ratio` is `⌊log2 (num/den)⌋`: `2^(a-b) ≤ num/den` exactly when `a - b` is at most it.  Unless `den·2^a` and `num·2^b`
    have the same number of bits, that number decides both sides. -/
theorem le_floorLog2Ratio_iff (num den a b : Nat) (hnum : num ≠ 0) (hden : den ≠ 0) :
    (a : Int) - b ≤ floorLog2Ratio num den ↔ den * 2 ^ a ≤ num * 2 ^ b := by
  have hX : den * 2 ^ a ≠ 0 := Nat.mul_ne_zero hden (Nat.ne_of_gt (Nat.two_pow_pos a))
  have hY : num * 2 ^ b ≠ 0 := Nat.mul_ne_zero hnum (Nat.ne_of_gt (Nat.two_pow_pos b))
  have hXl := log2_mul_two_pow hden a
  have hYl := log2_mul_two_pow hnum b
  obtain ⟨m1, m2⟩ := floorLog2Ratio_mem num den
  rcases Nat.lt_trichotomy (den.log2 + a) (num.log2 + b) with h | h | h
  · have hlt : den * 2 ^ a < num * 2 ^ b := lt_of_log2_lt hY (by omega)
    exact ⟨fun _ => Nat.le_of_lt hlt, fun _ => by omega⟩
  · rw [floorLog2Ratio_of_log2_eq num den a b h]
    split
    · exact ⟨fun _ => ‹_›, fun _ => Int.le_refl _⟩
    · exact ⟨fun _ => by omega, fun h' => absurd h' ‹_›⟩
  · have hlt : num * 2 ^ b < den * 2 ^ a := lt_of_log2_lt hX (by omega)
    exact ⟨fun _ => by omega, fun _ => by omega⟩

theorem floorLog2Ratio_lt_iff (num den a b : Nat) (hnum : num ≠ 0) (hden : den ≠ 0) :
    floorLog2Ratio num den < (a : Int) - b ↔ num * 2 ^ b < den * 2 ^ a := by
  rw [← Int.not_le, le_floorLog2Ratio_iff num den a b hnum hden, Nat.not_le]

/-- `2^e ≤ num/den < 2^(e+1)` for `e = floorLog2Ratio num den`, written with two natural exponents `a - b = e` -/
theorem floorLog2Ratio_spec (num den a b : Nat) (hnum : num ≠ 0) (hden : den ≠ 0)
    (h : floorLog2Ratio num den = (a : Int) - b) :
    den * 2 ^ a ≤ num * 2 ^ b ∧ num * 2 ^ b < den * 2 ^ (a + 1) :=
  ⟨(le_floorLog2Ratio_iff num den a b hnum hden).1 (Int.le_of_eq h.symm),
   (floorLog2Ratio_lt_iff num den (a + 1) b hnum hden).1 (by omega)⟩

theorem floorLog2Ratio_scale (n d k : Nat) (hn : n ≠ 0) (hd : d ≠ 0) (hk : k ≠ 0) :
    floorLog2Ratio (n * k) (d * k) = floorLog2Ratio n d := by
  have hkp := Nat.pos_of_ne_zero hk
  generalize h : floorLog2Ratio n d = e
  obtain ⟨s1, s2⟩ := floorLog2Ratio_spec n d e.toNat (-e).toNat hn hd (by rw [h]; omega)
  have l := (le_floorLog2Ratio_iff (n * k) (d * k) e.toNat (-e).toNat (Nat.mul_ne_zero hn hk) (Nat.mul_ne_zero hd hk)).2
    (by rw [Nat.mul_right_comm, Nat.mul_right_comm n]; exact Nat.mul_le_mul_right k s1)
  have u := (floorLog2Ratio_lt_iff (n * k) (d * k) (e.toNat + 1) (-e).toNat (Nat.mul_ne_zero hn hk) (Nat.mul_ne_zero hd hk)).2
    (by rw [Nat.mul_right_comm, Nat.mul_right_comm d]; exact Nat.mul_lt_mul_of_pos_right s2 hkp)
  omega

/-- the exponent as the implementation finds it: `den_lz - num_lz - adj`, where `adj = 1` iff the quotient of the operands shifted
    to a difference of `add` bits has only `add` bits -/
theorem floorLog2Ratio_eq (num den s t add : Nat) (hden : den ≠ 0)
    (hst : num.log2 + s = den.log2 + t + add) :
    floorLog2Ratio num den =
      (num.log2 : Int) - den.log2 - ((if num * 2 ^ s / (den * 2 ^ t) < 2 ^ add then 1 else 0 : Nat) : Int) := by
  have hiff : num * 2 ^ s / (den * 2 ^ t) < 2 ^ add ↔ ¬ den * 2 ^ (t + add) ≤ num * 2 ^ s := by
    rw [Nat.div_lt_iff_lt_mul (Nat.mul_pos (Nat.pos_of_ne_zero hden) (Nat.two_pow_pos t)), Nat.not_le,
      Nat.mul_comm (2 ^ add), Nat.mul_assoc, ← Nat.pow_add]
  rw [floorLog2Ratio_of_log2_eq num den (t + add) s (by omega), if_congr hiff rfl rfl]
  split <;> omega

theorem rneBits_eq (f : FloatFmt) (num den : Nat) (e : Int) (m : Nat)
    (he : floorLog2Ratio num den = e)
    (hm : (if e - f.fracBits ≥ 0 then rhe num (den * 2 ^ (e - f.fracBits).toNat)
            else rhe (num * 2 ^ (-(e - (f.fracBits : Int))).toNat) den) = m) :
    rneBits f num den =
      if m = 2 ^ (f.fracBits + 1) then ((e + f.bias + 1).toNat <<< f.fracBits)
      else ((e + f.bias).toNat <<< f.fracBits) + (m - 2 ^ f.fracBits) := by
  unfold rneBits
  simp only [he, hm]
  have : e + 1 + f.bias = e + f.bias + 1 := by omega
  split <;> simp [this]

theorem rneBits_scale (f : FloatFmt) (n d k : Nat) (hn : n ≠ 0) (hd : d ≠ 0) (hk : k ≠ 0) :
    rneBits f (n * k) (d * k) = rneBits f n d := by
  have hkp : 0 < k := Nat.pos_of_ne_zero hk
  unfold rneBits
  simp only [floorLog2Ratio_scale n d k hn hd hk]
  have e1 : ∀ s, rhe (n * k) (d * k * 2 ^ s) = rhe n (d * 2 ^ s) := by
    intro s
    rw [show d * k * 2 ^ s = d * 2 ^ s * k by ring]
    exact rhe_mul_right _ _ _ hkp
  have e2 : ∀ s, rhe (n * k * 2 ^ s) (d * k) = rhe (n * 2 ^ s) d := by
    intro s
    rw [show n * k * 2 ^ s = n * 2 ^ s * k by ring]
    exact rhe_mul_right _ _ _ hkp
  simp only [e1, e2]

/-- assembling `signif + ((bias + exp - 1) << fracBits) + inc`, including the carry into the exponent field -/
theorem assemble (fb : Nat) (E : Int) (m : Nat) (hE : 1 ≤ E) (h1 : 2 ^ fb ≤ m) :
    (if m = 2 ^ (fb + 1) then ((E + 1).toNat <<< fb) else (E.toNat <<< fb) + (m - 2 ^ fb))
      = m + ((E - 1).toNat <<< fb) := by
  obtain ⟨Y, rfl⟩ : ∃ Y : Nat, E = (Y : Int) + 1 := ⟨(E - 1).toNat, by omega⟩
  have a1 : ((Y : Int) + 1 + 1).toNat = Y + 2 := by omega
  have a2 : ((Y : Int) + 1).toNat = Y + 1 := by omega
  have a3 : ((Y : Int) + 1 - 1).toNat = Y := by omega
  rw [a1, a2, a3]
  simp only [Nat.shiftLeft_eq]
  rw [Nat.pow_succ] at *
  generalize 2 ^ fb = P at *
  have : (Y + 2) * P = Y * P + 2 * P := by ring
  have : (Y + 1) * P = Y * P + P := by ring
  split <;> omega

/-- What `rneBits` is made of, with its `let`s, its sign split and its carry resolved: for any two natural exponents with
    `a - b = ⌊log2 (num/den)⌋ - fracBits` the significand is `m = rhe (num·2^b) (den·2^a)`, it lies in
    `[2^fracBits, 2^(fracBits+1)]`, and the pattern is the exponent field *plus* `m` (the hidden bit, or a carry, adds one to the
    exponent field). -/
theorem rneBits_spec (f : FloatFmt) (num den a b : Nat) (hnum : num ≠ 0) (hden : den ≠ 0) (e : Int)
    (he : floorLog2Ratio num den = e) (hab : e - f.fracBits = (a : Int) - b) (m : Nat)
    (hm : rhe (num * 2 ^ b) (den * 2 ^ a) = m) :
    2 ^ f.fracBits ≤ m ∧ m ≤ 2 ^ (f.fracBits + 1) ∧
    (1 ≤ e + f.bias → rneBits f num den = m + ((e + f.bias - 1).toNat <<< f.fracBits)) := by
  subst hm
  obtain ⟨h1, h2⟩ := floorLog2Ratio_spec num den (a + f.fracBits) b hnum hden (by rw [he]; omega)
  have hV : 0 < den * 2 ^ a := Nat.mul_pos (Nat.pos_of_ne_zero hden) (Nat.two_pow_pos _)
  rw [Nat.pow_add, ← Nat.mul_assoc] at h1
  rw [Nat.add_assoc, Nat.pow_add, ← Nat.mul_assoc] at h2
  have hm0 := rhe_ge _ _ _ hV h1
  have hm1 := rhe_le _ _ _ hV h2
  refine ⟨hm0, hm1, fun hE => ?_⟩
  rw [rneBits_eq f num den e _ he ((rhe_shift num den b a).trans (by rw [← hab])).symm]
  exact assemble f.fracBits (e + f.bias) _ hE hm0

end Fpdec.FloatArith
