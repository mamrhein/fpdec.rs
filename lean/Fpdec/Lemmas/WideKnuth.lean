import Fpdec.Lemmas.WideDigits

/-!
# Knuth algorithm D, one quotient digit: the arithmetic of the correction loop, base `B` a variable (C16)

Dividend `u = x32·B + x1`, divisor `y = y1·B + y0`, true digit `Q = u / y`.  The loop of `u256_idiv_u128_special`
(`while q >= B || q*y0 > rhat*B + x1 { q -= 1; rhat += y1; if rhat >= B { break } }`) keeps `q·y1 + rhat = x32`.
Under that invariant its test is `q > Q` (`le_digit_iff`), and once `rhat` is a full digit the test cannot hold
(`break_le`); so started at or above `Q` it stops at `Q` and no add-back step is needed.  No normalisation
hypothesis is used.
-/

namespace Fpdec.Wide
open Fpdec Fpdec.Model

variable {B y1 y0 x1 x32 q r : Nat}

/-- with `q·y1 + r = x32`: `u − q·y = (r·B + x1) − q·y0` -/
theorem le_digit_iff (hy : 0 < y1 * B + y0) (h : q * y1 + r = x32) :
    q ≤ (x32 * B + x1) / (y1 * B + y0) ↔ q * y0 ≤ r * B + x1 := by
  have e : q * (y1 * B + y0) + (r * B + x1) = (q * y1 + r) * B + x1 + q * y0 := by ring
  rw [Nat.le_div_iff_mul_le hy, ← h]
  omega

theorem break_le (hy0 : y0 < B) (hx : x32 < y1 * B + y0) (h : q * y1 + r = x32) (hb : B ≤ r) :
    q * y0 ≤ r * B + x1 := by
  have hq : q * y1 < B * y1 := by rw [Nat.mul_comm B]; omega
  have hqB : q < B := Nat.lt_of_mul_lt_mul_right hq
  exact Nat.le_add_right_of_le (Nat.mul_le_mul (by omega) (by omega))

/-- the first estimate `x32 / y1` is not below the digit: any `Q` with `Q·y ≤ u` is at most it -/
theorem le_estimate {Q : Nat} (hy1 : 0 < y1) (hx1 : x1 < B) (hQ : Q * (y1 * B + y0) ≤ x32 * B + x1) : Q ≤ x32 / y1 := by
  rw [Nat.le_div_iff_mul_le hy1]
  apply Nat.le_of_lt_succ
  apply Nat.lt_of_mul_lt_mul_right (a := B)
  calc Q * y1 * B = Q * (y1 * B) := Nat.mul_assoc _ _ _
    _ ≤ Q * (y1 * B + y0) := Nat.mul_le_mul_left _ (Nat.le_add_right _ _)
    _ ≤ x32 * B + x1 := hQ
    _ < (x32 + 1) * B := by rw [Nat.add_mul, Nat.one_mul]; omega

end Fpdec.Wide
