import Fpdec.Lemmas.LogTable
import Fpdec.Spec.Arith

/-!
# The int_log10 copy of fpdec-core: `log10U32/U64/U128` compute `⌊log10 v⌋`; `Spec.ilog10` characterised
-/

namespace Fpdec
open Fpdec.Model

/-- `k = ⌊log10 v⌋` -/
def IsLog10 (v k : Nat) : Prop := 10 ^ k ≤ v ∧ v < 10 ^ (k + 1)

theorem IsLog10.lt_of_lt {v k n : Nat} (h : IsLog10 v k) (hv : v < 10 ^ n) : k < n :=
  (Nat.pow_lt_pow_iff_right (by decide)).mp (Nat.lt_of_le_of_lt h.1 hv)

theorem IsLog10.unique {v j k : Nat} (hj : IsLog10 v j) (hk : IsLog10 v k) : j = k :=
  Nat.le_antisymm (Nat.le_of_lt_succ (hj.lt_of_lt hk.2)) (Nat.le_of_lt_succ (hk.lt_of_lt hj.2))

theorem IsLog10.shift {v m k : Nat} (h : IsLog10 (v / 10 ^ m) k) : IsLog10 v (m + k) := by
  unfold IsLog10 at *
  have hp : 0 < 10 ^ m := Nat.pow_pos (by decide)
  obtain ⟨h1, h2⟩ := h
  constructor
  · rw [Nat.pow_add, Nat.mul_comm]
    exact (Nat.le_div_iff_mul_le hp).mp h1
  · have : 10 ^ (m + k + 1) = 10 ^ (k + 1) * 10 ^ m := by
      rw [← Nat.pow_add]; congr 1; omega
    rw [this]
    exact (Nat.div_lt_iff_lt_mul hp).mp h2

/-- one reduction step of the int_log10 functions: above the threshold `10^m`, `m` digits are split off -/
theorem IsLog10.ite {v T m a b : Nat} (hT : T = 10 ^ m) (h1 : T ≤ v → IsLog10 (v / T) a) (h2 : v < T → IsLog10 v b) :
    IsLog10 v (if v ≥ T then m + a else b) := by
  subst hT; split
  · exact (h1 ‹_›).shift
  · exact h2 (by omega)

theorem ilog10_isLog : ∀ (fuel n : Nat), 0 < n → n < 10 ^ fuel → IsLog10 n (Spec.ilog10 fuel n)
  | 0, n, h0, h => by simp at h; omega
  | fuel + 1, n, h0, h => by
    unfold Spec.ilog10
    by_cases h10 : n < 10
    · simp only [h10, if_true]
      unfold IsLog10; omega
    · simp only [h10, if_false]
      have hlt : n / 10 < 10 ^ fuel := by
        rw [Nat.pow_succ] at h; omega
      exact IsLog10.shift (m := 1) (by rw [Nat.pow_one]; exact ilog10_isLog fuel (n / 10) (by omega) hlt)

theorem lessThan5_isLog (v : Nat) (h0 : 0 < v) (h : v < 100000) : IsLog10 v (lessThan5 v) := by
  rw [lessThan5_spec v h]
  unfold IsLog10
  split
  · omega
  · split
    · omega
    · split
      · omega
      · split <;> omega

theorem lessThan5_zero : lessThan5 0 = 0 := by decide

theorem log10U32_isLog (v : Nat) (h0 : 0 < v) (h : v < 10000000000) : IsLog10 v (log10U32 v) :=
  IsLog10.ite (m := 5) (by decide)
    (fun hc => lessThan5_isLog _ (Nat.div_pos hc (by decide)) (by unfold Gen.LOG_U32_T; omega))
    (fun hc => lessThan5_isLog v h0 hc)

theorem log10U64_isLog (v : Nat) (h0 : 0 < v) (h : v < 100000000000000000000) : IsLog10 v (log10U64 v) := by
  -- below `10^10`: what `u32` does, with the truncating cast `as u32`
  have low (w : Nat) (hw0 : 0 < w) (hw : w < 10000000000) :
      IsLog10 w (if w ≥ Gen.LOG_U64_T2 then 5 + lessThan5 (w / Gen.LOG_U64_T2 % 2 ^ 32) else lessThan5 (w % 2 ^ 32)) := by
    refine IsLog10.ite (m := 5) (by decide) (fun hc => ?_) (fun hc => ?_) <;> unfold Gen.LOG_U64_T2 at * <;>
      rw [Nat.mod_eq_of_lt (by omega)]
    · exact lessThan5_isLog _ (Nat.div_pos hc (by decide)) (by omega)
    · exact lessThan5_isLog w hw0 hc
  have key := IsLog10.ite (v := v) (m := 10) (T := Gen.LOG_U64_T1) (by decide)
    (fun hc => low (v / Gen.LOG_U64_T1) (Nat.div_pos hc (by decide)) (by unfold Gen.LOG_U64_T1; omega))
    (fun hc => low v h0 hc)
  -- the two `let (val, log) := if …` of the source against the nested `if` of `key`
  unfold log10U64
  split at key <;> split at key <;>
    simp only [*, if_true, if_false, ge_iff_le, Nat.zero_add, ← Nat.add_assoc] at key ⊢ <;> exact key

theorem log10U128_isLog (v : Nat) (h0 : 0 < v) (h : v < 340282366920938463463374607431768211456) :
    IsLog10 v (log10U128 v) := by
  unfold log10U128
  refine IsLog10.ite (m := 32) (by decide) (fun hc => ?_) (fun hc => ?_)
  · rw [Nat.mod_eq_of_lt (by unfold Gen.LOG_U128_T1; omega)]
    exact log10U32_isLog _ (Nat.div_pos hc (by decide)) (by unfold Gen.LOG_U128_T1; omega)
  · -- the `let (val, log) := if …` of the source, read as one more reduction step
    have key : IsLog10 v
        (if v ≥ Gen.LOG_U128_T2 then 16 + log10U64 (v / Gen.LOG_U128_T2 % 2 ^ 64) else log10U64 (v % 2 ^ 64)) := by
      unfold Gen.LOG_U128_T1 at hc
      refine IsLog10.ite (m := 16) (by decide) (fun hc2 => ?_) (fun hc2 => ?_)
      · rw [Nat.mod_eq_of_lt (by unfold Gen.LOG_U128_T2; omega)]
        exact log10U64_isLog _ (Nat.div_pos hc2 (by decide)) (by unfold Gen.LOG_U128_T2; omega)
      · rw [Nat.mod_eq_of_lt (by unfold Gen.LOG_U128_T2 at hc2; omega)]
        exact log10U64_isLog v h0 (by unfold Gen.LOG_U128_T2 at hc2; omega)
    split at key <;> simp [*]

theorem log10U128_zero : log10U128 0 = 0 := by decide

/-! Crude bounds, for every argument: all that the no-overflow side of the ties needs. -/

theorem lessThan5_lt (val : Nat) (h : val < 2 ^ 32) : lessThan5 val < 65536 := by
  unfold lessThan5
  have a : (val + Gen.LOG_LT5_C1) &&& (val + Gen.LOG_LT5_C2) < 2 ^ 33 :=
    Nat.and_lt_two_pow _ (Nat.lt_of_lt_of_le (Nat.add_lt_add_right h _) (by decide))
  have b : (val + Gen.LOG_LT5_C3) &&& (val + Gen.LOG_LT5_C4) < 2 ^ 33 :=
    Nat.and_lt_two_pow _ (Nat.lt_of_lt_of_le (Nat.add_lt_add_right h _) (by decide))
  have c := Nat.xor_lt_two_pow a b
  rw [Nat.shiftRight_eq_div_pow]
  omega

theorem log10U32_lt (val : Nat) (h : val < 2 ^ 32) : log10U32 val < 5 + 65536 := by
  unfold log10U32
  split
  · exact Nat.add_lt_add_left (lessThan5_lt _ (Nat.lt_of_le_of_lt (Nat.div_le_self _ _) h)) _
  · exact Nat.lt_add_left _ (lessThan5_lt val h)

theorem log10U64_lt (val : Nat) : log10U64 val < 15 + 65536 := by
  have h (w : Nat) : lessThan5 (w % 2 ^ 32) < 65536 := lessThan5_lt _ (Nat.mod_lt _ (by decide))
  unfold log10U64
  by_cases h1 : val ≥ Gen.LOG_U64_T1 <;> simp only [h1, if_true, if_false] <;> split <;>
    exact Nat.add_lt_add_of_le_of_lt (by simp) (h _)

end Fpdec
