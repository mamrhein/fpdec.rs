import Fpdec.Prim

/-!
# Powers of two, the bitwise operations on `Nat`, leading and trailing zeros
-/

namespace Fpdec

theorem pow2_pos (n : Nat) : (0 : Int) < (2 : Int) ^ n := Int.pow_pos (by decide)

theorem int_pow_mono {a : Int} (ha : 1 < a) {j k : Nat} (h : j ≤ k) : a ^ j ≤ a ^ k := by
  rcases Nat.lt_or_eq_of_le h with h | h
  · exact Int.le_of_lt (Int.pow_lt_pow_of_lt ha h)
  · subst h; exact Int.le_refl _

theorem pow2_mono {j k : Nat} (h : j ≤ k) : (2 : Int) ^ j ≤ (2 : Int) ^ k := int_pow_mono (by decide) h

theorem pow2_126 : (2 : Int) ^ 126 = 85070591730234615865843651857942052864 := by decide
theorem pow2_127 : (2 : Int) ^ 127 = 170141183460469231731687303715884105728 := by decide
theorem pow2_128 : (2 : Int) ^ 128 = 340282366920938463463374607431768211456 := by decide

theorem natCast_two_pow (m : Nat) : ((2 ^ m : Nat) : Int) = (2 : Int) ^ m := by rw [Int.natCast_pow]; rfl

theorem xor_xor_cancel (a b : Nat) : (a ^^^ b) ^^^ b = a := by
  rw [Nat.xor_assoc, Nat.xor_self, Nat.xor_zero]

theorem or_two_pow_eq_xor {r k : Nat} (h : r < 2 ^ k) : r ||| 2 ^ k = r ^^^ 2 ^ k := by
  apply Nat.eq_of_testBit_eq
  intro i
  have hr := Nat.testBit_lt_two_pow h
  simp only [Nat.testBit_or, Nat.testBit_xor, Nat.testBit_two_pow]
  by_cases hi : k = i
  · subst hi; simp [hr]
  · simp [hi]

theorem lz_le (v : Nat) : leadingZeros 128 v ≤ 128 := by
  unfold leadingZeros; omega

theorem lz_add_log2 {v : Nat} (h0 : v ≠ 0) (h : v.log2 ≤ 127) : leadingZeros 128 v + v.log2 = 127 := by
  unfold leadingZeros
  rw [if_neg h0]; omega

theorem tzGo_spec : ∀ (fuel v acc : Nat), 0 < v → v < 2 ^ fuel →
    ∃ k, trailingZeros.go fuel v acc = acc + k ∧ 2 ^ k ∣ v ∧ (v / 2 ^ k) % 2 = 1 := by
  intro fuel
  induction fuel with
  | zero => intro v acc h0 h1; simp at h1; omega
  | succ n ih =>
    intro v acc h0 h1
    unfold trailingZeros.go
    by_cases hv : v % 2 = 1
    · refine ⟨0, ?_, ?_, ?_⟩ <;> simp [hv]
    · simp only [hv, if_false]
      have h2 : 0 < v / 2 := by omega
      have h3 : v / 2 < 2 ^ n := by rw [Nat.pow_succ] at h1; omega
      obtain ⟨k, e1, e2, e3⟩ := ih (v / 2) (acc + 1) h2 h3
      refine ⟨k + 1, by rw [e1]; omega, ?_, ?_⟩
      · have : v = 2 * (v / 2) := by omega
        rw [this, Nat.pow_succ, Nat.mul_comm]
        exact Nat.mul_dvd_mul (Nat.dvd_refl 2) e2
      · rw [Nat.pow_succ, Nat.mul_comm, ← Nat.div_div_eq_div_mul]; exact e3

theorem trailingZeros_spec (v : Nat) (h0 : 0 < v) (h1 : v < 2 ^ 128) :
    2 ^ trailingZeros 128 v ∣ v ∧ (v >>> trailingZeros 128 v) % 2 = 1 := by
  unfold trailingZeros
  have hv : v ≠ 0 := by omega
  simp only [hv, if_false]
  obtain ⟨k, e1, e2, e3⟩ := tzGo_spec 128 v 0 h0 h1
  rw [e1, Nat.zero_add, Nat.shiftRight_eq_div_pow]
  exact ⟨e2, e3⟩

theorem trailingZeros_lt (v : Nat) (h0 : 0 < v) (h1 : v < 2 ^ 128) : trailingZeros 128 v < 128 := by
  obtain ⟨hd, _⟩ := trailingZeros_spec v h0 h1
  have hle : 2 ^ trailingZeros 128 v ≤ v := Nat.le_of_dvd h0 hd
  have : 2 ^ trailingZeros 128 v < 2 ^ 128 := Nat.lt_of_le_of_lt hle h1
  exact (Nat.pow_lt_pow_iff_right (by decide)).1 this

theorem shiftRight_trailingZeros_pos (v : Nat) (h0 : 0 < v) (h1 : v < 2 ^ 128) : 0 < v >>> trailingZeros 128 v := by
  obtain ⟨_, ho⟩ := trailingZeros_spec v h0 h1
  generalize v >>> trailingZeros 128 v = w at ho
  omega

end Fpdec
