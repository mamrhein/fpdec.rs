import Fpdec.Model.Threads

/-!
# The world of default rounding modes: what a thread reads after an operation of any thread
-/

namespace Fpdec
open Fpdec.Model

/-- with the storage class read from the source, every thread has a cell of its own -/
theorem cellOf_eq (t : Nat) : cellOf t = t := by
  unfold cellOf; rw [if_pos (by decide)]

theorem read_set (w : World) (c c' : Nat) (m : Mode) :
    World.read ((c, m) :: w.filter (fun e => e.1 ≠ c)) c' = if c' = c then m else World.read w c' := by
  unfold World.read
  by_cases h : c' = c
  · rw [if_pos h, List.find?_cons_of_pos (by simpa using h.symm)]
  · rw [if_neg h, List.find?_cons_of_neg (by simpa using Ne.symm h), List.find?_filter]
    -- an entry for `c'` is not one for `c`
    congr 2
    funext e
    by_cases he : e.1 = c' <;> simp [he, h]

theorem default_setDefault (w : World) (t t' : Nat) (m : Mode) :
    (w.setDefault t m).default t' = if t' = t then m else w.default t' := by
  unfold World.default World.setDefault
  rw [cellOf_eq, cellOf_eq, read_set]

theorem step_default (prof : Profile) (w : World) (op : ThreadOp) (t : Nat) :
    (threadStep prof w op).1.default t =
      match op with
      | .set t' m => if t = t' then m else w.default t
      | _ => w.default t := by
  cases op with
  | set t' m => simp [threadStep, default_setDefault]
  | get t' => simp [threadStep]
  | round t' c p n => simp [threadStep]
  | probe t' => simp [threadStep]

end Fpdec
