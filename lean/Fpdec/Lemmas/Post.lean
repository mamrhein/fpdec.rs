import Fpdec.Prim

/-!
# Postconditions of an `Outcome`

`Post o P`: whatever `o` returns, if it returns, satisfies `P`.  Needed where a later step cannot overflow on any value the
preceding steps can produce, whatever the inputs were.
-/

namespace Fpdec

def Post {α} (o : Outcome α) (P : α → Prop) : Prop := ∀ v, o = .ok v → P v

theorem Post.ok {α} {P : α → Prop} {a : α} (h : P a) : Post (.ok a) P := fun _ e => Outcome.ok.inj e ▸ h
theorem Post.pure {α} {P : α → Prop} {a : α} (h : P a) : Post (pure a) P := Post.ok h
theorem Post.panic {α} {P : α → Prop} {k : PanicKind} : Post (.panic k : Outcome α) P := fun _ e => nomatch e

theorem Post.bind {α β} {o : Outcome α} {f : α → Outcome β} {P : α → Prop} {Q : β → Prop}
    (ho : Post o P) (hf : ∀ a, P a → Post (f a) Q) : Post (o >>= f) Q := by
  cases o with
  | ok a => exact hf a (ho a rfl)
  | panic k => exact Post.panic

/-- nothing is needed of the first step -/
theorem Post.bind' {α β} {o : Outcome α} {f : α → Outcome β} {Q : β → Prop} (hf : ∀ a, Post (f a) Q) : Post (o >>= f) Q :=
  Post.bind (P := fun _ => True) (fun _ _ => trivial) fun a _ => hf a

theorem Post.ite {α} {c : Prop} [Decidable c] {a b : Outcome α} {P : α → Prop} (ha : c → Post a P) (hb : ¬c → Post b P) :
    Post (if c then a else b) P := by
  split
  · exact ha ‹_›
  · exact hb ‹_›

theorem Post.assert (b : Bool) : Post (Fpdec.assert b) fun _ => b = true := by
  unfold Fpdec.assert
  exact .ite (fun h => .ok h) fun _ => .panic

theorem Post.mono {α} {o : Outcome α} {P Q : α → Prop} (h : Post o P) (hPQ : ∀ a, P a → Q a) : Post o Q :=
  fun a e => hPQ a (h a e)

theorem Post.of_map {α β} {f : α → β} {o : Outcome α} {P : β → Prop} (h : Post (f <$> o) P) : Post o fun a => P (f a) :=
  fun a e => h (f a) (e ▸ rfl)

theorem bind_congr_post {α β} {o : Outcome α} {P : α → Prop} {f g : α → Outcome β} (ho : Post o P) (h : ∀ a, P a → f a = g a) :
    (o >>= f) = (o >>= g) :=
  match o, ho with
  | .ok a, ho => h a (ho a rfl)
  | .panic _, _ => rfl

end Fpdec
