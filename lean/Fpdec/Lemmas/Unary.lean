import Fpdec.Lemmas.Rounding
import Fpdec.Lemmas.IntTy
import Fpdec.Lemmas.UnaryLog
import Mathlib.Tactic.Linarith

/-!
# C15 / C14 — floor, ceil, trunc, fract, neg, abs, magnitude, predicates; integer conversions

Model: Fpdec/Model/Decimal.lean (`neg`, `abs`, `divFloorI128`, `divCeilI128`, `floor`, `ceil`, `trunc`, `fract`, `magnitude`,
`eqZero`, `eqOne`, `isNegative`, `isPositive`, `fromInt`, `tryFromU128`, `intoI128`, `intoInt`), Fpdec/Model/Core.lean (`log10U8`,
`lessThan5`, `log10U16/U32/U64/U128`, `i128Magnitude`) — mirrors of /repo/src/unops.rs, /repo/src/lib.rs (`magnitude`),
/repo/fpdec-core/src/lib.rs (the int_log10 copy), /repo/src/from_int.rs, /repo/src/into_int.rs.  The constants of the log10 bit
trick are `Gen.LOG_*` (generated from the source).  Spec: `Spec.floor/ceil/trunc/fract/magnitude/ilog10/intoInt` in Spec/Arith.lean.
-/

namespace Fpdec
open Fpdec.Model

theorem divFloorI128_pos (prof : Profile) (x y : Int) (hx : fitsI128 x = true) (hy : 0 < y) :
    divFloorI128 prof x y = .ok (x / y) := by
  have hf := ediv_fits hx hy
  rw [floor_of_tdiv x hy] at hf ⊢
  unfold divFloorI128
  rw [divI128_pos x y hy, remI128_pos x y hy]
  simp only [Outcome.bind_ok, show ¬ y < 0 by omega, hy, and_false, and_true, false_or, gt_iff_lt]
  split
  · rw [if_pos ‹_›] at hf; exact plainI128_ok prof hf
  · rfl

theorem divCeilI128_pos (prof : Profile) (x y : Int) (hx : fitsI128 x = true) (hy : 0 < y) :
    divCeilI128 prof x y = .ok (-((-x) / y)) := by
  have hf : fitsI128 (-((-x) / y)) = true := by
    have := ediv_bounds (-x) hy
    rw [fitsI128_iff] at hx ⊢; unfold I128_MIN I128_MAX at *; omega
  rw [ceil_of_tdiv x hy] at hf ⊢
  unfold divCeilI128
  rw [divI128_pos x y hy, remI128_pos x y hy]
  simp only [Outcome.bind_ok, show ¬ y < 0 by omega, hy, and_false, and_true, or_false, gt_iff_lt]
  split
  · rw [if_pos ‹_›] at hf; exact plainI128_ok prof hf
  · rfl

theorem pow10_le_max_u {p : Nat} (h : p ≤ 18) : (10 : Int) ^ p ≤ I128_MAX := pow10_le_max (Nat.le_trans h (by decide))

/-- the common shape of `floor`, `ceil`, `trunc`, each of which is `divPow` of its division by definition: nothing to do without
    fractional digits, else one division by `10^n` -/
def divPow (op : Int → Int → Outcome Int) (d : Dec) : Outcome Dec :=
  match d.nfrac with
  | 0 => .ok d
  | n => do let t ← tenPow n; let c ← op d.coeff t; pure ⟨c, 0⟩

theorem divPow_spec {op : Int → Int → Outcome Int} {f : Int → Int → Int} (d : Dec) (hn : d.nfrac ≤ 18)
    (hop : ∀ t : Int, 0 < t → op d.coeff t = .ok (f d.coeff t)) (h1 : f d.coeff 1 = d.coeff) :
    divPow op d = .ok ⟨f d.coeff ((10 : Int) ^ d.nfrac), 0⟩ := by
  obtain ⟨c, n⟩ := d
  dsimp only at hn hop h1
  unfold divPow
  cases n with
  | zero => simp only [Int.pow_zero, h1]
  | succ n => simp only [tenPow_ok _ (show n + 1 ≤ 38 by omega), Outcome.bind_ok, hop _ (pow10_pos _), Outcome.pure_eq]

/-- for every operand: a result has no fractional digits and is returned as it is -/
theorem divPow_idem (op : Int → Int → Outcome Int) (d : Dec) : (divPow op d >>= divPow op) = divPow op d := by
  obtain ⟨c, n⟩ := d
  unfold divPow
  cases n with
  | zero => rfl
  | succ n =>
    simp only
    cases tenPow (n + 1) with
    | panic k => rfl
    | ok t => simp only [Outcome.bind_ok]; cases op c t <;> rfl

theorem floor_spec (prof : Profile) (d : Dec) (hd : Dom d) :
    floor prof d = .ok ⟨(Spec.floor d.coeff d.nfrac).1, 0⟩ :=
  divPow_spec d hd.2.2 (fun _ ht => divFloorI128_pos prof _ _ hd.fits ht) (Int.ediv_one _)

theorem ceil_spec (prof : Profile) (d : Dec) (hd : Dom d) :
    ceil prof d = .ok ⟨(Spec.ceil d.coeff d.nfrac).1, 0⟩ :=
  divPow_spec (f := fun c t => -(-c / t)) d hd.2.2 (fun _ ht => divCeilI128_pos prof _ _ hd.fits ht)
    (by rw [Int.ediv_one, Int.neg_neg])

theorem trunc_spec (d : Dec) (hd : Dom d) : trunc d = .ok ⟨(Spec.trunc d.coeff d.nfrac).1, 0⟩ :=
  divPow_spec d hd.2.2 (fun _ ht => divI128_pos _ _ ht) (Int.tdiv_one _)

theorem fract_spec (d : Dec) (hd : Dom d) :
    fract d = .ok ⟨(Spec.fract d.coeff d.nfrac).1, (Spec.fract d.coeff d.nfrac).2⟩ := by
  rw [fract_eq d hd.nfrac_le_38, Spec.fract]
  split <;> rfl

theorem Dom.floor {d : Dec} (hd : Dom d) : Dom ⟨d.coeff / (10 : Int) ^ d.nfrac, 0⟩ := by
  have := ediv_bounds d.coeff (pow10_pos d.nfrac)
  exact hd.mono (by omega) (by omega)

theorem neg_spec (prof : Profile) (d : Dec) (hd : Dom d) : neg prof d = .ok ⟨-d.coeff, d.nfrac⟩ := by
  unfold neg negI128
  rw [plainI128_ok prof (x := -d.coeff) hd.neg.fits]
  rfl

theorem abs_spec (prof : Profile) (d : Dec) (hd : Dom d) : abs prof d = .ok ⟨d.coeff.natAbs, d.nfrac⟩ := by
  unfold Model.abs
  rw [abs_ok prof ⟨hd.1, hd.2.1⟩]
  rfl

theorem ilog10_i128 {i : Int} (hi : I128_MIN ≤ i ∧ i ≤ I128_MAX) (h0 : i ≠ 0) :
    IsLog10 i.natAbs (Spec.ilog10 64 i.natAbs) ∧ Spec.ilog10 64 i.natAbs < 39 := by
  have h39 : i.natAbs < 10 ^ 39 := Nat.lt_of_lt_of_le (natAbs_lt_U128 hi) (by decide)
  have hs := ilog10_isLog 64 i.natAbs (by omega) (Nat.lt_of_lt_of_le h39 (Nat.pow_le_pow_right (by decide) (by decide)))
  exact ⟨hs, hs.lt_of_lt h39⟩

theorem i128Magnitude_spec (i : Int) (hi : I128_MIN ≤ i ∧ i ≤ I128_MAX) :
    i128Magnitude i = if i = 0 then 0 else Spec.ilog10 64 i.natAbs := by
  unfold i128Magnitude
  by_cases h0 : i = 0
  · subst h0; simp [log10U128_zero]
  · simp only [h0, if_false]
    have hm := log10U128_isLog i.natAbs (by omega) (natAbs_lt_U128 hi)
    obtain ⟨hs, hk⟩ := ilog10_i128 hi h0
    rw [IsLog10.unique hm hs]
    omega

/-- `magnitude()`: position of the most significant digit, 0 for every zero value -/
theorem magnitude_spec (prof : Profile) (d : Dec) (hd : Dom d) :
    magnitude prof d = .ok (Spec.magnitude d.coeff d.nfrac) := by
  obtain ⟨h1, h2, h3⟩ := hd
  unfold magnitude Spec.magnitude
  by_cases h0 : d.coeff = 0
  · simp [h0]
  · simp only [h0, if_false]
    rw [i128Magnitude_spec d.coeff ⟨by omega, h2⟩]
    simp only [h0, if_false]
    have hk := (ilog10_i128 ⟨Int.le_of_lt h1, h2⟩ h0).2
    rw [i8_cast_id (by omega) (by omega), i8_cast_id (by omega) (by omega)]
    rw [i8_plain_ok prof (by omega) (by omega)]

/-- predicates reflect the value irrespective of the representation -/
theorem predicates_spec (d : Dec) (hd : Dom d) :
    eqZero d = decide (d.coeff = 0) ∧ eqOne d = .ok (decide (d.coeff = (10 : Int) ^ d.nfrac)) ∧
    isNegative d = decide (d.coeff < 0) ∧ isPositive d = decide (d.coeff > 0) :=
  ⟨rfl, eqOne_eq d hd.2.2, rfl, rfl⟩

/-- the ten target types of `T::try_from(Decimal)` (into_int.rs) -/
def IsTargetTy (t : IntTy) : Prop :=
  t = IntTy.u8 ∨ t = IntTy.i8 ∨ t = IntTy.u16 ∨ t = IntTy.i16 ∨ t = IntTy.u32 ∨ t = IntTy.i32 ∨ t = IntTy.u64 ∨ t = IntTy.i64 ∨
  t = IntTy.u128 ∨ t = IntTy.i128

/-- The code's shortcut for `n = 0` or a zero coefficient agrees with its general branch. -/
theorem intoI128_eq (d : Dec) (hn : d.nfrac ≤ 38) :
    intoI128 d = .ok (if d.coeff % (10 : Int) ^ d.nfrac = 0 then .ok (d.coeff / (10 : Int) ^ d.nfrac) else .error .notAnInt) := by
  unfold intoI128
  split
  · rename_i h
    rcases h with h | h <;> simp [h]
  · have ht := pow10_pos d.nfrac
    rw [tenPow_ok _ hn, Outcome.bind_ok, remI128_pos _ _ ht, Outcome.bind_ok, divI128_pos _ _ ht]
    simp only [tmod_zero_iff]
    split
    · rw [Int.tdiv_eq_ediv_of_dvd (Int.dvd_of_emod_eq_zero ‹_›)]; rfl
    · rfl

theorem intoInt_eq (t : IntTy) (d : Dec) (hn : d.nfrac ≤ 38) :
    intoInt t d = .ok (match Spec.intoInt t d.coeff d.nfrac with
      | .ok v => .ok v
      | .error false => .error .notAnInt
      | .error true => .error .outOfRange) := by
  unfold intoInt Spec.intoInt
  rw [intoI128_eq d hn]
  dsimp only
  split <;> simp only [Outcome.bind_ok, ne_eq, not_true_eq_false, if_false, *]
  · split <;> rfl
  · rfl

theorem spec_intoInt_scale (t : IntTy) (a : Int) (p k : Nat) :
    Spec.intoInt t (a * (10 : Int) ^ k) (p + k) = Spec.intoInt t a p := by
  have hK := pow10_pos k
  unfold Spec.intoInt
  simp only
  rw [Int.pow_add, Int.mul_comm a, Int.mul_comm (10 ^ p), Int.mul_emod_mul_of_pos _ _ hK, Int.mul_ediv_mul_of_pos _ _ hK]
  simp [Int.ne_of_gt hK]

theorem fromInt_spec (i : Int) : fromInt i = ⟨i, 0⟩ := rfl

end Fpdec
