import Fpdec.Kernels.Misc
import Fpdec.Kernels.Cmp
import Fpdec.Kernels.Rkyv
import Fpdec.Lemmas.Cmp
import Fpdec.Props.C08_Sites

/-!
# C08 — Equality and ordering are by numeric value and form a total order

* `partial_cmp_spec`, `cmp_spec`, `eq_spec`: on two Decimals `partial_cmp` is never `None`, `cmp` never panics, and both — as
  well as `==` — are the comparison of the exact values `a/10^p` vs `b/10^q` (`Spec.cmp` = compare `a·10^q` with `b·10^p`),
  also when aligning the scales overflows the i128 range (then the code decides by sign, proved right).
* `eq_int_spec`, `cmp_dec_int_spec`, `cmp_int_dec_spec`: comparisons with the 9 integer types, both operand orders.
* `value_order_*`: the value comparison is reflexive, antisymmetric (swap) and transitive; equality under it is equality of the
  rationals — so `<, <=, >, >=, min, max` (std's default methods on top of `partial_cmp`/`cmp`) inherit a total order.
* rkyv (`rkyv_*`): an `ArchivedDecimal` is the pair of its two fields.  The *translated* impls of this run — the macro bodies
  `impl_partial_eq!` / `impl_partial_ord!` instantiated for `(ArchivedDecimal, ArchivedDecimal)` and `(Decimal, ArchivedDecimal)`,
  the two forwarding impls `Decimal == ArchivedDecimal` / `Decimal.partial_cmp(&ArchivedDecimal)`, `Ord for ArchivedDecimal`,
  `Archive::resolve` and `Deserialize` of the hand-written packed layout — are proved to make archive ∘ deserialise the identity
  and every archived comparison the comparison of the exact values (`rkyv_roundtrip`, `rkyv_eq_spec`, `rkyv_cmp_spec`,
  `rkyv_mixed_spec`, `rkyv_ord_never_panics`).  rkyv's own code (byte layout of the derived impl, `check_bytes`, alignment) is
  exercised by the correspondence run with the `rkyv` and `rkyv,packed` features, not modelled.
-/

namespace Fpdec.Props.C08
open Fpdec Fpdec.Model

theorem partial_cmp_spec (x y : Dec) (hx : Dom x) (hy : Dom y) :
    partialCmp x y = some (Spec.cmp x.coeff x.nfrac y.coeff y.nfrac) := partialCmp_spec_full x y hx.domI hy.domI

theorem cmp_spec (x y : Dec) (hx : Dom x) (hy : Dom y) :
    Model.cmp x y = .ok (Spec.cmp x.coeff x.nfrac y.coeff y.nfrac) := Fpdec.cmp_spec x y hx hy

theorem eq_spec (x y : Dec) (hx : Dom x) (hy : Dom y) :
    decimalEq x y = (Spec.cmp x.coeff x.nfrac y.coeff y.nfrac == .eq) := decimalEq_spec_full x y hx.domI hy.domI

theorem cmp_dec_int_spec (signed : Bool) (d : Dec) (i : Int) (hd : Dom d) (hi : IntOperand signed i) :
    partialCmpDecInt signed d i = some (Spec.cmp d.coeff d.nfrac i 0) := partialCmpDecInt_spec signed d i hd hi

theorem eq_int_spec (signed : Bool) (d : Dec) (i : Int) (hd : Dom d) (hi : IntOperand signed i) :
    decEqInt signed d i = (Spec.cmp d.coeff d.nfrac i 0 == .eq) := by
  rw [decEqInt_eq_partialCmp, cmp_dec_int_spec signed d i hd hi]; rfl

theorem cmp_int_dec_spec (signed : Bool) (i : Int) (d : Dec) (hd : Dom d) (hi : IntOperand signed i) :
    partialCmpIntDec signed i d = some (Spec.cmp i 0 d.coeff d.nfrac) := by
  rw [partialCmpIntDec_eq_swap, cmp_dec_int_spec signed d i hd hi, spec_cmp_swap, Option.map_some, Ordering.swap_swap]

theorem value_order_refl (a : Int) (p : Nat) : Spec.cmp a p a p = .eq := spec_cmp_refl a p

theorem value_order_antisymm (a : Int) (p : Nat) (b : Int) (q : Nat) :
    Spec.cmp b q a p = (Spec.cmp a p b q).swap := spec_cmp_swap a p b q

theorem value_order_trans (a : Int) (p : Nat) (b : Int) (q : Nat) (c : Int) (r : Nat)
    (h1 : Spec.cmp a p b q ≠ .gt) (h2 : Spec.cmp b q c r ≠ .gt) : Spec.cmp a p c r ≠ .gt := by
  unfold Spec.cmp at *
  rw [Ne, Int.compare_eq_gt, Int.not_lt] at *
  have hP := pow10_pos p
  have hQ := pow10_pos q
  have hR := pow10_pos r
  generalize (10 : Int) ^ p = P at *
  generalize (10 : Int) ^ q = Q at *
  generalize (10 : Int) ^ r = R at *
  -- a*Q ≤ b*P, b*R ≤ c*Q ⊢ a*R ≤ c*P: multiply by R resp. P, cancel Q
  refine Int.le_of_mul_le_mul_right (a := Q) ?_ hQ
  calc (a * R) * Q = a * Q * R := by ring
    _ ≤ b * P * R := Int.mul_le_mul_of_nonneg_right h1 (Int.le_of_lt hR)
    _ = b * R * P := by ring
    _ ≤ c * Q * P := Int.mul_le_mul_of_nonneg_right h2 (Int.le_of_lt hP)
    _ = (c * P) * Q := by ring

theorem value_order_eq_iff (a : Int) (p : Nat) (b : Int) (q : Nat) :
    Spec.cmp a p b q = .eq ↔ a * (10 : Int) ^ q = b * (10 : Int) ^ p := spec_cmp_eq_iff a p b q

/-! ### non-vacuity -/
example : partialCmp ⟨1, 0⟩ ⟨10, 1⟩ = some .eq ∧ partialCmp Dec.MAX ⟨I128_MAX, 1⟩ = some .gt := by decide +kernel

/-! ### translated kernels
The Lean definitions `Gen.K.*` are regenerated from the Rust source on every run by `tools/fpkernels.py` (expression-level
translation).  These theorems tie them to the hand-written model the property theorems above are about: a change of the Rust
kernel that changes its translation breaks them. -/
/-- `impl PartialEq<Decimal> for Decimal` / `impl PartialOrd<Decimal> for Decimal`, as translated on this run -/
theorem kernel_decimal_eq (prof : Profile) (x y : Dec) (hp : x.nfrac < 256) (hq : y.nfrac < 256) :
    Gen.K.decimal_eq prof x y = .ok (decimalEq x y) := Kernels.decimal_eq_eq prof x y hp hq
theorem kernel_decimal_partial_cmp (prof : Profile) (x y : Dec) (hp : x.nfrac < 256) (hq : y.nfrac < 256) :
    Gen.K.decimal_partial_cmp prof x y = .ok (partialCmp x y) := Kernels.decimal_partial_cmp_eq prof x y hp hq
theorem kernel_checked_adjust_coeffs (prof : Profile) (x : Int) (p : Nat) (y : Int) (q : Nat) (hp : p < 256) (hq : q < 256) :
    Gen.K.checked_adjust_coeffs prof x p y q = .ok (checkedAdjustCoeffs x p y q) :=
  Kernels.checked_adjust_coeffs_eq prof x p y q hp hq

/-- the integer forms of `==` and `partial_cmp` (cmp.rs macro bodies instantiated with `u64` / `i64`), as translated on this run -/
theorem kernel_decimal_eq_uint (prof : Profile) (d : Dec) (i : Nat) :
    Gen.K.decimal_eq_uint prof d i = .ok (decEqInt false d i) := Kernels.decimal_eq_uint_eq prof d i
theorem kernel_decimal_eq_sint (prof : Profile) (d : Dec) (i : Int) :
    Gen.K.decimal_eq_sint prof d i = .ok (decEqInt true d i) := Kernels.decimal_eq_sint_eq prof d i
theorem kernel_decimal_cmp_sint (prof : Profile) (d : Dec) (i : Int) :
    Gen.K.decimal_cmp_sint prof d i = .ok (partialCmpDecInt true d i) := Kernels.decimal_cmp_sint_eq prof d i
theorem kernel_sint_cmp_decimal (prof : Profile) (i : Int) (d : Dec) :
    Gen.K.sint_cmp_decimal prof i d = .ok (partialCmpIntDec true i d) := Kernels.sint_cmp_decimal_eq prof i d
theorem kernel_decimal_cmp_uint (prof : Profile) (d : Dec) (i : Nat) :
    Gen.K.decimal_cmp_uint prof d i = .ok (partialCmpDecInt false d i) := Kernels.decimal_cmp_uint_eq prof d i
theorem kernel_uint_cmp_decimal (prof : Profile) (i : Nat) (d : Dec) :
    Gen.K.uint_cmp_decimal prof i d = .ok (partialCmpIntDec false i d) := Kernels.uint_cmp_decimal_eq prof i d

/-- `impl Ord for Decimal`: `partial_cmp(..).unwrap()`, as translated on this run -/
theorem kernel_decimal_cmp (prof : Profile) (x y : Dec) (hp : x.nfrac < 256) (hq : y.nfrac < 256) :
    Gen.K.decimal_cmp prof x y = Model.cmp x y := Kernels.decimal_cmp_eq prof x y hp hq

/-! ### feature rkyv: the translated `ArchivedDecimal` impls -/
theorem kernel_archived_eq_archived (prof : Profile) (x y : Dec) (hp : x.nfrac < 256) (hq : y.nfrac < 256) :
    Gen.K.archived_eq_archived prof x y = .ok (decimalEq x y) := Kernels.archived_eq_archived_eq prof x y hp hq
theorem kernel_archived_eq_decimal (prof : Profile) (x y : Dec) (hp : x.nfrac < 256) (hq : y.nfrac < 256) :
    Gen.K.archived_eq_decimal prof x y = .ok (decimalEq x y) := Kernels.archived_eq_decimal_eq prof x y hp hq
theorem kernel_decimal_eq_archived (prof : Profile) (x y : Dec) (hp : x.nfrac < 256) (hq : y.nfrac < 256) :
    Gen.K.decimal_eq_archived prof x y = .ok (decimalEq y x) := Kernels.decimal_eq_archived_eq prof x y hp hq
theorem kernel_archived_cmp_archived (prof : Profile) (x y : Dec) (hp : x.nfrac < 256) (hq : y.nfrac < 256) :
    Gen.K.archived_cmp_archived prof x y = .ok (partialCmp x y) := Kernels.archived_cmp_archived_eq prof x y hp hq
theorem kernel_archived_cmp_decimal (prof : Profile) (x y : Dec) (hp : x.nfrac < 256) (hq : y.nfrac < 256) :
    Gen.K.archived_cmp_decimal prof x y = .ok (partialCmp x y) := Kernels.archived_cmp_decimal_eq prof x y hp hq
theorem kernel_decimal_cmp_archived (prof : Profile) (x y : Dec) (hp : x.nfrac < 256) (hq : y.nfrac < 256) :
    Gen.K.decimal_cmp_archived prof x y = .ok ((partialCmp y x).map Ordering.swap) :=
  Kernels.decimal_cmp_archived_eq prof x y hp hq
theorem kernel_archived_basics (prof : Profile) (d : Dec) :
    Gen.K.archived_eq_zero prof d = .ok (eqZero d) ∧ Gen.K.archived_is_negative prof d = .ok (isNegative d) ∧
    Gen.K.archived_is_positive prof d = .ok (isPositive d) ∧ Gen.K.archived_eq_one prof d = Gen.K.decimal_eq_one prof d ∧
    Gen.K.archived_coefficient prof d = .ok d.coeff ∧ Gen.K.archived_n_frac_digits prof d = .ok d.nfrac ∧
    Gen.K.decimal_coefficient prof d = .ok d.coeff ∧ Gen.K.decimal_n_frac_digits prof d = .ok d.nfrac :=
  ⟨rfl, rfl, rfl, rfl, rfl, rfl, rfl, rfl⟩

/-- the two layouts of an archived Decimal, as extracted from src/lib.rs on this run: the derived one (features rkyv without
    packed: rkyv's derive mirrors the fields of `Decimal`) and the hand-written `#[repr(C, packed)]` mirror -/
theorem rkyv_layout :
    Gen.DECIMAL_FIELDS = [("coeff", "i128"), ("n_frac_digits", "u8")] ∧ Gen.ARCHIVED_FIELDS = Gen.DECIMAL_FIELDS ∧
    Gen.RKYV_DERIVES = ["Archive", "Serialize", "Deserialize"] := by decide

/-- archiving (what `Archive::resolve` writes, after `Serialize` succeeded) followed by `Deserialize` is the identity -/
theorem rkyv_roundtrip (prof : Profile) (d : Dec) :
    Gen.K.decimal_serialize prof d = .ok (.ok ()) ∧
    (Gen.K.decimal_resolve prof d >>= Gen.K.archived_deserialize prof) = .ok (.ok d) := by
  refine ⟨rfl, ?_⟩
  rw [Kernels.decimal_resolve_eq]; rfl

/-- archived values compare with each other exactly like the values they were archived from: by exact value -/
theorem rkyv_eq_spec (prof : Profile) (x y : Dec) (hx : Dom x) (hy : Dom y) :
    (do let ax ← Gen.K.decimal_resolve prof x; let ay ← Gen.K.decimal_resolve prof y; Gen.K.archived_eq_archived prof ax ay)
      = .ok (Spec.cmp x.coeff x.nfrac y.coeff y.nfrac == .eq) := by
  simp only [Kernels.decimal_resolve_eq, Kernels.bind_ok']
  rw [Kernels.archived_eq_archived_eq prof x y (by have := hx.2.2; omega) (by have := hy.2.2; omega)]
  rw [eq_spec x y hx hy]

theorem rkyv_cmp_spec (prof : Profile) (x y : Dec) (hx : Dom x) (hy : Dom y) :
    (do let ax ← Gen.K.decimal_resolve prof x; let ay ← Gen.K.decimal_resolve prof y; Gen.K.archived_cmp_archived prof ax ay)
      = .ok (some (Spec.cmp x.coeff x.nfrac y.coeff y.nfrac)) := by
  simp only [Kernels.decimal_resolve_eq, Kernels.bind_ok']
  rw [Kernels.archived_cmp_archived_eq prof x y (by have := hx.2.2; omega) (by have := hy.2.2; omega)]
  rw [partial_cmp_spec x y hx hy]

/-- mixed comparisons, both operand orders: `archived(x) ⋈ y` and `x ⋈ archived(y)` are the comparison of the exact values -/
theorem rkyv_mixed_spec (prof : Profile) (x y : Dec) (hx : Dom x) (hy : Dom y) :
    (do let ax ← Gen.K.decimal_resolve prof x; Gen.K.archived_cmp_decimal prof ax y)
      = .ok (some (Spec.cmp x.coeff x.nfrac y.coeff y.nfrac)) ∧
    (do let ay ← Gen.K.decimal_resolve prof y; Gen.K.decimal_cmp_archived prof x ay)
      = .ok (some (Spec.cmp x.coeff x.nfrac y.coeff y.nfrac)) ∧
    (do let ax ← Gen.K.decimal_resolve prof x; Gen.K.archived_eq_decimal prof ax y)
      = .ok (Spec.cmp x.coeff x.nfrac y.coeff y.nfrac == .eq) ∧
    (do let ay ← Gen.K.decimal_resolve prof y; Gen.K.decimal_eq_archived prof x ay)
      = .ok (Spec.cmp x.coeff x.nfrac y.coeff y.nfrac == .eq) := by
  have hp : x.nfrac < 256 := by have := hx.2.2; omega
  have hq : y.nfrac < 256 := by have := hy.2.2; omega
  simp only [Kernels.decimal_resolve_eq, Kernels.bind_ok']
  refine ⟨?_, ?_, ?_, ?_⟩
  · rw [Kernels.archived_cmp_decimal_eq prof x y hp hq, partial_cmp_spec x y hx hy]
  · rw [Kernels.decimal_cmp_archived_eq prof x y hp hq, partial_cmp_spec y x hy hx]
    simp only [Option.map_some]
    rw [← value_order_antisymm]
  · rw [Kernels.archived_eq_decimal_eq prof x y hp hq, eq_spec x y hx hy]
  · rw [Kernels.decimal_eq_archived_eq prof x y hp hq, eq_spec y x hy hx, spec_cmp_beq_comm]

/-- `Ord for ArchivedDecimal` never panics (its `unwrap` is of a `Some`) -/
theorem rkyv_ord_never_panics (prof : Profile) (x y : Dec) (hx : Dom x) (hy : Dom y) :
    Gen.K.archived_ord_cmp prof x y = .ok (Spec.cmp x.coeff x.nfrac y.coeff y.nfrac) := by
  rw [Kernels.archived_ord_cmp_eq prof x y (by have := hx.2.2; omega) (by have := hy.2.2; omega), partial_cmp_spec x y hx hy]

example : (Gen.K.decimal_resolve Profile.dev ⟨-50, 2⟩ >>= fun a => Gen.K.archived_cmp_decimal Profile.dev a ⟨-5, 1⟩) = .ok (some .eq) := by
  decide

/-! ### algebraic laws -/

theorem partial_cmp_swap (x y : Dec) (hx : Dom x) (hy : Dom y) :
    partialCmp y x = (partialCmp x y).map Ordering.swap := by
  rw [partial_cmp_spec x y hx hy, partial_cmp_spec y x hy hx, value_order_antisymm]
  rfl

theorem lt_iff_gt (x y : Dec) (hx : Dom x) (hy : Dom y) :
    partialCmp x y = some .lt ↔ partialCmp y x = some .gt := by
  rw [partial_cmp_swap x y hx hy, partial_cmp_spec x y hx hy]
  generalize Spec.cmp x.coeff x.nfrac y.coeff y.nfrac = o
  cases o <;> simp [Ordering.swap]

theorem eq_iff_cmp_eq (x y : Dec) (hx : Dom x) (hy : Dom y) :
    decimalEq x y = true ↔ partialCmp x y = some .eq := by
  rw [decimalEq_eq_partialCmp]; exact beq_iff_eq

theorem decimal_eq_symm (x y : Dec) (hx : Dom x) (hy : Dom y) : decimalEq x y = decimalEq y x := by
  rw [eq_spec x y hx hy, eq_spec y x hy hx, spec_cmp_beq_comm]

theorem decimal_eq_refl (x : Dec) (hx : Dom x) : decimalEq x x = true ∧ partialCmp x x = some .eq := by
  rw [eq_spec x x hx hx, partial_cmp_spec x x hx hx, value_order_refl]
  exact ⟨rfl, rfl⟩

example : partialCmp ⟨-25, 1⟩ ⟨-2499, 3⟩ = some .lt ∧ partialCmp ⟨-2499, 3⟩ ⟨-25, 1⟩ = some .gt := by decide +kernel
example : decimalEq ⟨-25, 1⟩ ⟨-2500, 3⟩ = true ∧ partialCmp ⟨-25, 1⟩ ⟨-2500, 3⟩ = some .eq ∧
    decimalEq ⟨I128_MAX, 0⟩ ⟨I128_MAX, 18⟩ = false ∧ partialCmp ⟨I128_MAX, 0⟩ ⟨I128_MAX, 18⟩ = some .gt := by decide +kernel

end Fpdec.Props.C08
