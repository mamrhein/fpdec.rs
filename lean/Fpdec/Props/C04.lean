import Fpdec.Kernels.Quant
import Fpdec.Kernels.MulDiv
import Fpdec.Kernels.Round
import Fpdec.Lemmas.Scale
import Fpdec.Lemmas.IntTy
import Fpdec.Props.C02
import Fpdec.Props.C04_Sites

/-!
# C04 — mul_rounded, div_rounded and quantize round the exact result once, per mode

* `checkedDivRounded_spec`: the shared kernel `checked_div_rounded(a, p, b, q, n)` returns the exact quotient
  `a·10^(n+q) / (b·10^p)` rounded ONCE under the thread mode — in all four scaling branches: equal scales, dividend scaled
  (narrow), dividend scaled through the 256-bit path, and divisor scaled (the repaired branch, `specRound_two_step`).
  The dividend `a` ranges over the WHOLE i128 range (an integer operand may be `i128::MIN`); the one excluded pair is
  `i128::MIN / -1` without scaling of the dividend, where the plain `/` panics (`checkedDivRounded_min_neg_one`): the exact
  quotient `2^127` is not an i128, the spec expects the overflow signal and the operator forms accept that panic as such
  (`div_rounded_body`); `checked_div` never gets there (its dividend is scaled by `10^18`, which goes the 256-bit way).
* `div_rounded_spec` and the integer-operand shapes; `n > 18` is rejected for the three guarded shapes; the
  unguarded integer/integer shape is the open finding D8 (`div_rounded_int_int_partial`, `div_rounded_int_n19_witness`).
* `mul_rounded_spec`, `quantize_spec`.
The wide paths are relative to `C02.WideMul` / `WideDiv` (specifications of the 256-bit helpers, discharged in `Props/C16.lean`).
-/

namespace Fpdec.Props.C04
open Fpdec Fpdec.Model

/-- specification of `i128_shifted_div_mod_floor` (proved in `Lemmas/Wide.lean`, C16): for a positive divisor the floor quotient and
    the non-negative remainder; for a negative divisor (live after the D13 repair) the same floor quotient, written with the negated
    operands, and a remainder with the sign of the divisor -/
def WideDiv : Prop :=
  (∀ (prof : Profile) (x : Int) (p : Nat) (y : Int), (I128_MIN ≤ x ∧ x ≤ I128_MAX) → p ≤ 38 → (0 < y ∧ y ≤ I128_MAX) →
    i128ShiftedDivModFloor prof x p y =
      .ok (if ((x * 10 ^ p).natAbs / y.natAbs : Nat) ≤ I128_MAX.toNat then some ((x * 10 ^ p) / y, (x * 10 ^ p) % y) else none)) ∧
  (∀ (prof : Profile) (x : Int) (p : Nat) (y : Int), (I128_MIN ≤ x ∧ x ≤ I128_MAX) → p ≤ 38 → (I128_MIN ≤ y ∧ y < 0) →
    i128ShiftedDivModFloor prof x p y =
      .ok (if ((x * 10 ^ p).natAbs / y.natAbs : Nat) ≤ I128_MAX.toNat
        then some ((-(x * 10 ^ p)) / (-y), -((-(x * 10 ^ p)) % (-y))) else none))

/-- a coefficient result seen as a decimal with `n` fractional digits -/
def outOptInt (n : Nat) (r : Outcome (Option Int)) : Outcome (Option (Int × Nat)) :=
  match r with
  | .ok (some c) => .ok (some (c, n))
  | .ok none => .ok none
  | .panic k => .panic k

def specDivCore (tm : Mode) (a : Int) (p : Nat) (b : Int) (q n : Nat) : Spec.Exp :=
  Spec.valFit (Spec.specRoundQ tm (a * (10 : Int) ^ (n + q)) (b * (10 : Int) ^ p)) n

theorem outOptInt_eq (n : Nat) (r : Outcome (Option Int)) :
    outOptInt n r = outOptPair ((Option.map fun c => (⟨c, n⟩ : Dec)) <$> r) := by
  cases r with
  | panic k => rfl
  | ok o => cases o <;> rfl

/-- the divisor-scaled branch of `checked_div_rounded` after the floor division `(quot, rem)` of `a` by `b`: the quotient `a / (b·10^s)`
    rounded once (the repaired branch, defect D7) -/
theorem gt_cont (prof : Profile) (tm : Mode) (a b : Int) (n s : Nat) (ha : fitsI128 a = true) (hb0 : b ≠ 0)
    (hq : fitsI128 (a.fdiv b) = true) (hs : 1 ≤ s ∧ s ≤ 18) :
    Spec.allowedChecked (Spec.valFit (Spec.specRoundQ tm a (b * (10 : Int) ^ s)) n)
      (outOptInt n (do
        let t ← tenPow s
        if a.fmod b = 0 then do
          let c ← i128DivRounded prof tm (a.fdiv b) t none
          pure (some c)
        else do
          let q2 ← plainI128 prof (2 * a.fdiv b)
          let q2 ← plainI128 prof (q2 + 1)
          let t2 ← plainI128 prof (2 * t)
          let c ← i128DivRounded prof tm q2 t2 none
          pure (some c))) = true := by
  have hts := pow10_pos s
  -- `2·10^s ≤ 10^(s+1) ≤ i128::MAX`
  have hpl := pow10_le_max (k := s + 1) (by omega)
  rw [Int.pow_succ] at hpl
  rw [tenPow_ok _ (by omega)]
  simp only [Outcome.bind_ok]
  split
  · rename_i hrem
    rw [i128DivRounded_pos prof tm none _ _ hq hts (pow10_le_max (by omega)), ← specRoundQ_exact_step tm a hb0 hts hrem]
    exact valFit_some _ _ (specRound_fits tm _ _ hq hts)
  · rename_i hrem
    -- `|2·quot + 1| ≤ |a|`: the doubled operands fit
    have h2 := natAbs_two_fdiv_add_one_le hb0 hrem
    rw [fitsI128_iff] at ha
    have f1 : fitsI128 (2 * a.fdiv b) = true := by rw [fitsI128_iff]; unfold I128_MIN I128_MAX at *; omega
    have f2 : fitsI128 (2 * a.fdiv b + 1) = true := by rw [fitsI128_iff]; unfold I128_MIN I128_MAX at *; omega
    have f3 : fitsI128 (2 * (10 : Int) ^ s) = true := by rw [fitsI128_iff]; unfold I128_MIN I128_MAX at *; omega
    simp only [plainI128_ok prof f1, plainI128_ok prof f2, plainI128_ok prof f3, Outcome.bind_ok]
    rw [i128DivRounded_pos prof tm none _ _ f2 (by omega) (by omega),
      ← specRoundQ_two_step tm a hb0 hts (pow10_even hs.1) hrem]
    exact valFit_some _ _ (specRound_fits tm _ _ f2 (by omega))

/-- `gt_cont` for a positive divisor (up to `2^127`), written with `/` and `%` -/
theorem gt_tail (prof : Profile) (tm : Mode) (a' b' : Int) (n s : Nat)
    (ha' : I128_MIN ≤ a' ∧ a' ≤ I128_MAX) (hb' : 0 < b' ∧ b' ≤ I128_MAX + 1) (hs : 1 ≤ s ∧ s ≤ 18) :
    Spec.allowedChecked (Spec.valFit (Spec.specRound tm a' (b' * (10 : Int) ^ s)) n)
      (outOptInt n (do
        let t ← tenPow s
        if (a' / b', a' % b').2 = 0 then do
          let c ← i128DivRounded prof tm (a' / b', a' % b').1 t none
          pure (some c)
        else do
          let q2 ← plainI128 prof (2 * (a' / b', a' % b').1)
          let q2 ← plainI128 prof (q2 + 1)
          let t2 ← plainI128 prof (2 * t)
          let c ← i128DivRounded prof tm q2 t2 none
          pure (some c))) = true := by
  have ha := (fitsI128_iff a').mpr ha'
  have h := gt_cont prof tm a' b' n s ha (by omega)
    (by rw [Int.fdiv_eq_ediv_of_nonneg a' (Int.le_of_lt hb'.1)]; exact ediv_fits ha hb'.1) hs
  rw [specRoundQ_pos tm a' (Int.mul_pos hb'.1 (pow10_pos s)), Int.fdiv_eq_ediv_of_nonneg a' (Int.le_of_lt hb'.1),
    Int.fmod_eq_emod_of_nonneg a' (Int.le_of_lt hb'.1)] at h
  exact h

theorem shiftedDivRounded_spec (hw : WideDiv) (prof : Profile) (tm : Mode) (a : Int) (k : Nat) (b : Int) (n : Nat)
    (ha : I128_MIN ≤ a ∧ a ≤ I128_MAX) (hk : k ≤ 38) (hb : I128_MIN ≤ b ∧ b ≤ I128_MAX) (hb0 : b ≠ 0) :
    Spec.allowedChecked (Spec.valFit (Spec.specRoundQ tm (a * (10 : Int) ^ k) b) n)
      (outOptInt n (i128ShiftedDivRounded prof tm a k b none)) = true := by
  unfold i128ShiftedDivRounded
  rcases Int.lt_or_gt_of_ne hb0 with h | h
  · have key := wide_tail_abs tm (-(a * (10 : Int) ^ k)) (-b) n (by omega) (by unfold I128_MAX I128_MIN at *; omega)
    rw [hw.2 prof a k b ha hk ⟨hb.1, h⟩, specRoundQ_neg tm _ h]
    rw [Int.natAbs_neg, Int.natAbs_neg] at key
    split at key <;> rename_i ht <;> simp only [ht, if_true, if_false, Outcome.bind_ok, Outcome.pure_eq, outOptInt_eq, Outcome.map_ok]
    · simpa only [Option.bind_some, Int.natAbs_neg] using key
    · exact key
  · have key := wide_tail_abs tm (a * (10 : Int) ^ k) b n h (by omega)
    rw [hw.1 prof a k b ha hk ⟨h, hb.2⟩, specRoundQ_pos tm _ h]
    split at key <;> rename_i ht <;> simp only [ht, if_true, if_false, Outcome.bind_ok, Outcome.pure_eq, outOptInt_eq, Outcome.map_ok]
    · simpa only [Option.bind_some] using key
    · exact key

/-- the one pair of i128 operands whose exact quotient `2^127` is not an i128: when the dividend `i128::MIN` does not have to be
    scaled, `i128::MIN / -1` is evaluated by the plain operator and panics in every profile (Rust's behaviour) -/
theorem checkedDivRounded_min_neg_one (prof : Profile) (tm : Mode) (p q n : Nat) (h : n + q ≤ p) (hnq : n + q ≤ 255) :
    checkedDivRounded prof tm I128_MIN p (-1) q n = .panic .arith := by
  unfold checkedDivRounded
  rw [plainU8_add prof n q (by omega)]
  simp only [Outcome.bind_ok]
  rcases Nat.eq_or_lt_of_le h with heq | hgt
  · have hc : compare p (n + q) = .eq := by rw [heq]; simp
    simp only [hc]
    rw [i128DivRounded_min_neg_one]
    rfl
  · have hc : compare p (n + q) = .gt := Nat.compare_eq_gt.mpr hgt
    simp only [hc]
    rw [i128DivModFloor_min_neg_one]
    rfl

/-- `checked_div_rounded(a, p, b, q, n)` for EVERY i128 dividend `a` (`i128::MIN` included: an integer operand) except the pair
    `(i128::MIN, -1)` without scaling of the dividend (`checkedDivRounded_min_neg_one`) -/
theorem checkedDivRounded_spec (hw : WideDiv) (prof : Profile) (tm : Mode) (a : Int) (p : Nat) (b : Int) (q n : Nat)
    (ha : I128_MIN ≤ a ∧ a ≤ I128_MAX) (hb : I128_MIN ≤ b ∧ b ≤ I128_MAX) (hb0 : b ≠ 0)
    (hp : p ≤ 18) (hq : q ≤ 18) (hn : n ≤ 18) (hc1 : ¬ (a = I128_MIN ∧ b = -1 ∧ n + q ≤ p)) :
    Spec.allowedChecked (specDivCore tm a p b q n) (outOptInt n (checkedDivRounded prof tm a p b q n)) = true := by
  have ha' := (fitsI128_iff a).mpr ha
  have hb' := (fitsI128_iff b).mpr hb
  unfold checkedDivRounded specDivCore
  rw [plainU8_add prof n q (by omega)]
  simp only [Outcome.bind_ok]
  rcases Nat.lt_trichotomy p (n + q) with hlt | heq | hgt
  · -- the dividend is scaled by `10^k`, `k = n + q - p`; the spec cancels `10^p`
    rw [Nat.compare_eq_lt.mpr hlt, pow10_split (show p ≤ n + q by omega), ← Int.mul_assoc, specRoundQ_scale tm _ b _ hb0 (Int.ne_of_gt (pow10_pos p))]
    simp only []
    rw [checkedMulPowTen_eq a _ (by omega)]
    cases hh : fitsI128 (a * (10 : Int) ^ (n + q - p))
    · rw [checkedI128_none hh]
      exact shiftedDivRounded_spec hw prof tm a _ b n ha (by omega) hb hb0
    · -- a multiple of ten is not `i128::MIN`
      have hm := mul_pow10_ne_min a (n + q - p) (by omega)
      rw [checkedI128_some hh]
      simp only []
      rw [i128DivRounded_eq prof tm none _ b hh hb' hb0 (fun h => hm h.1)]
      exact valFit_some _ _ (specRoundQ_fits tm _ b hh hb0 (fun h => hm h.1))
  · have hc : ¬ (a = I128_MIN ∧ b = -1) := fun h => hc1 ⟨h.1, h.2, by omega⟩
    rw [heq, Nat.compare_eq_eq.mpr rfl, specRoundQ_scale tm a b _ hb0 (Int.ne_of_gt (pow10_pos _))]
    simp only []
    rw [i128DivRounded_eq prof tm none a b ha' hb' hb0 hc]
    exact valFit_some _ _ (specRoundQ_fits tm a b ha' hb0 hc)
  · -- the divisor is scaled by `10^s`, `s = p - (n + q)`: floor-divide first, then round once; the spec cancels `10^(n+q)`
    have hc : ¬ (a = I128_MIN ∧ b = -1) := fun h => hc1 ⟨h.1, h.2, by omega⟩
    rw [Nat.compare_eq_gt.mpr hgt, pow10_split (show n + q ≤ p by omega), ← Int.mul_assoc,
      specRoundQ_scale tm a _ _ (Int.mul_ne_zero hb0 (Int.ne_of_gt (pow10_pos _))) (Int.ne_of_gt (pow10_pos _))]
    simp only []
    rw [i128DivModFloor_eq prof a b ha' hb' hb0 hc]
    exact gt_cont prof tm a b n _ ha' hb0 (fdiv_fmod_fits ha' hb' hb0 hc).1 (by omega)

theorem specDivCore_valOvf (tm : Mode) (a : Int) (p : Nat) (b : Int) (q n : Nat) : (specDivCore tm a p b q n).ValOvf :=
  valFit_valOvf _ _

theorem specDivCore_min_neg_one (tm : Mode) (q n : Nat) : specDivCore tm I128_MIN (n + q) (-1) q n = .ovf := by
  unfold specDivCore
  rw [specRoundQ_scale tm I128_MIN (-1) _ (by decide) (Int.ne_of_gt (pow10_pos _))]
  rw [show I128_MIN = 170141183460469231731687303715884105728 * -1 by decide, specRoundQ_exact_mul tm _ _ (by decide), valFit_eq,
    if_neg (by decide), if_neg (by decide)]

/-- the common body of the four `div_rounded` shapes after the guards, on i128 coefficients (`i128::MIN` included): the operator form
    accepts the `i128::MIN / -1` panic as the overflow signal the spec expects there (`2^127` is not representable); only the
    combination "dividend `i128::MIN` with more fractional digits than `n + q`" is outside (not a `Decimal`, and an integer has `p = 0`) -/
theorem div_rounded_body (hw : WideDiv) (prof : Profile) (tm : Mode) (x y : Dec) (n : Nat) (hx : DomI x) (hy : DomI y)
    (hb0 : y.coeff ≠ 0) (hn : n ≤ 18) (hc : ¬ (x.coeff = I128_MIN ∧ y.coeff = -1 ∧ n + y.nfrac < x.nfrac)) :
    Spec.allowedOp (specDivCore tm x.coeff x.nfrac y.coeff y.nfrac n) (outPair (do
      match ← checkedDivRounded prof tm x.coeff x.nfrac y.coeff y.nfrac n with
      | some c => pure ⟨c, n⟩
      | none => Outcome.panic PanicKind.overflow)) = true := by
  by_cases hcorner : x.coeff = I128_MIN ∧ y.coeff = -1 ∧ n + y.nfrac ≤ x.nfrac
  · obtain ⟨h1, h2, h3⟩ := hcorner
    have hpe : x.nfrac = n + y.nfrac := by omega
    rw [h1, h2, hpe, checkedDivRounded_min_neg_one prof tm _ _ n (Nat.le_refl _) (by have := hy.2.2; omega), specDivCore_min_neg_one]
    rfl
  · -- from the kernel's `Option<i128>` to the operator result `Decimal { coeff, n }` or the overflow panic
    have hk := checkedDivRounded_spec hw prof tm _ _ _ _ n ⟨hx.1, hx.2.1⟩ ⟨hy.1, hy.2.1⟩ hb0 hx.2.2 hy.2.2 hn hcorner
    rw [outOptInt_eq] at hk
    have := allowedOp_panicOnNone (specDivCore_valOvf tm _ _ _ _ n) hk
    generalize checkedDivRounded prof tm x.coeff x.nfrac y.coeff y.nfrac n = r at this ⊢
    rcases r with (_ | c) | k <;> exact this

/-- `x.div_rounded(y, n)` on `DomI` instead of `Dom`, so that the integer shapes (`Decimal::from(i)`, `i128::MIN` included) are
    instances; the exclusion is that of `div_rounded_body` -/
theorem div_rounded_spec_full (hw : WideDiv) (prof : Profile) (tm : Mode) (x y : Dec) (n : Nat) (hx : DomI x) (hy : DomI y)
    (hc : ¬ (x.coeff = I128_MIN ∧ y.coeff = -1 ∧ n + y.nfrac < x.nfrac)) :
    Spec.allowedOp (Spec.divRounded tm x.coeff x.nfrac y.coeff y.nfrac n) (outPair (divRounded prof tm x y n)) = true := by
  unfold divRounded Spec.divRounded
  simp only [max_nfrac, eqZero, decide_eq_true_eq]
  refine allowedOp_ite (fun _ => rfl) fun hn => ?_
  refine allowedOp_ite (fun _ => rfl) fun hb0 => ?_
  refine allowedOp_ite (fun _ => rfl) fun _ => ?_
  exact div_rounded_body hw prof tm x y n hx hy hb0 (by omega) hc

/-- the integer shapes of `div_rounded` are the Decimal shape applied to `Decimal::from(i)`: they differ only in how the zero tests are
    spelled (the int/int shape for `n ≤ 18` only: it lacks the guard, open finding D8) -/
theorem divRounded_fromInt_right (prof : Profile) (tm : Mode) (x : Dec) (i : Int) (n : Nat) :
    divRounded prof tm x ⟨i, 0⟩ n = divRoundedDecInt prof tm x i n := by
  unfold divRounded divRoundedDecInt
  simp only [eqZero, decide_eq_true_eq]

theorem divRounded_fromInt_left (prof : Profile) (tm : Mode) (i : Int) (y : Dec) (n : Nat) :
    divRounded prof tm ⟨i, 0⟩ y n = divRoundedIntDec prof tm i y n := by
  unfold divRounded divRoundedIntDec
  simp only [eqZero, decide_eq_true_eq]

theorem divRounded_fromInt_both (prof : Profile) (tm : Mode) (i j : Int) (n : Nat) (hn : n ≤ 18) :
    divRounded prof tm ⟨i, 0⟩ ⟨j, 0⟩ n = divRoundedIntInt prof tm i j n := by
  unfold divRounded divRoundedIntInt
  simp only [eqZero, decide_eq_true_eq, max_nfrac, show ¬ n > 18 by omega, if_false]

/-- `Decimal.div_rounded(Decimal, n)` for every `n : u8` -/
theorem div_rounded_spec (hw : WideDiv) (prof : Profile) (tm : Mode) (x y : Dec) (n : Nat) (hx : Dom x) (hy : Dom y) :
    Spec.allowedOp (Spec.divRounded tm x.coeff x.nfrac y.coeff y.nfrac n) (outPair (divRounded prof tm x y n)) = true :=
  div_rounded_spec_full hw prof tm x y n hx.domI hy.domI (fun h => absurd h.1 (Int.ne_of_gt hx.1))

/-- `Decimal.div_rounded(int, n)` (guarded since the D8 repair); `i` any value of the 9 integer types, `i128::MIN` included (D13 repair) -/
theorem div_rounded_dec_int_spec (hw : WideDiv) (prof : Profile) (tm : Mode) (x : Dec) (i : Int) (n : Nat) (hx : Dom x)
    (hi : I128_MIN ≤ i ∧ i ≤ I128_MAX) :
    Spec.allowedOp (Spec.divRounded tm x.coeff x.nfrac i 0 n) (outPair (divRoundedDecInt prof tm x i n)) = true := by
  rw [← divRounded_fromInt_right]
  exact div_rounded_spec_full hw prof tm x ⟨i, 0⟩ n hx.domI (domI_fromInt hi) (fun h => absurd h.1 (Int.ne_of_gt hx.1))

/-- `int.div_rounded(Decimal, n)` (guarded since the D8 repair) -/
theorem div_rounded_int_dec_spec (hw : WideDiv) (prof : Profile) (tm : Mode) (i : Int) (y : Dec) (n : Nat) (hy : Dom y)
    (hi : I128_MIN ≤ i ∧ i ≤ I128_MAX) :
    Spec.allowedOp (Spec.divRounded tm i 0 y.coeff y.nfrac n) (outPair (divRoundedIntDec prof tm i y n)) = true := by
  rw [← divRounded_fromInt_left]
  exact div_rounded_spec_full hw prof tm ⟨i, 0⟩ y n (domI_fromInt hi) hy.domI (fun h => absurd h.2.2 (Nat.not_lt_zero _))

/- FULL STATEMENT (false for the current code — open finding D8):
     ∀ n, allowedOp (Spec.divRounded tm i 0 j 0 n) (outPair (divRoundedIntInt prof tm i j n))
   `impl DivRounded<$t> for $t` has no `n > 18` guard and cannot get one: the repository's own test
   `div_rounded_int_by_int_tests::test_u64` asserts a result with 32 fractional digits. -/

/-- `int.div_rounded(int, n)` restricted to `n ≤ 18` -/
theorem div_rounded_int_int_partial (hw : WideDiv) (prof : Profile) (tm : Mode) (i j : Int) (n : Nat) (hn : n ≤ 18)
    (hi : I128_MIN ≤ i ∧ i ≤ I128_MAX) (hj : I128_MIN ≤ j ∧ j ≤ I128_MAX) :
    Spec.allowedOp (Spec.divRounded tm i 0 j 0 n) (outPair (divRoundedIntInt prof tm i j n)) = true := by
  rw [← divRounded_fromInt_both prof tm i j n hn]
  exact div_rounded_spec_full hw prof tm ⟨i, 0⟩ ⟨j, 0⟩ n (domI_fromInt hi) (domI_fromInt hj) (fun h => absurd h.2.2 (Nat.not_lt_zero _))

/-- witness of the open finding: `1u64.div_rounded(3u64, 19)` returns 19 fractional digits instead of panicking -/
theorem div_rounded_int_n19_witness :
    divRoundedIntInt Profile.dev .heven 1 3 19 = .ok ⟨3333333333333333333, 19⟩ ∧
    Spec.allowedOp (Spec.divRounded .heven 1 0 3 0 19) (outPair (divRoundedIntInt Profile.dev .heven 1 3 19)) = false := by
  decide

theorem mul_rounded_spec (hw : C02.WideMul) (prof : Profile) (tm : Mode) (x y : Dec) (n : Nat) (hx : Dom x) (hy : Dom y) :
    Spec.allowedOp (Spec.mulRounded tm x.coeff x.nfrac y.coeff y.nfrac n) (outPair (mulRounded prof tm x y n)) = true := by
  unfold mulRounded Spec.mulRounded
  simp only [max_nfrac, eqZero_or]
  refine allowedOp_ite (fun _ => rfl) fun hn => ?_
  refine allowedOp_ite (fun _ => rfl) fun _ => ?_
  have := allowedOp_panicOnNone (C02.specMulCore_valOvf tm _ _ _ _ n) (C02.checkedMulRounded_spec hw prof tm x y n hx hy (by omega))
  rw [← bind_panicOnNone] at this
  exact this

/-- with no fractional digits asked for, the zero-dividend short cut of `div_rounded` is no special case: `0 / d` rounds to `0` -/
theorem spec_divRounded_zero (tm : Mode) (a : Int) (p : Nat) (b : Int) (q : Nat) :
    Spec.divRounded tm a p b q 0 =
      if b = 0 then .divzero else Spec.valFit (Spec.specRoundQ tm (a * (10 : Int) ^ q) (b * (10 : Int) ^ p)) 0 := by
  unfold Spec.divRounded
  rw [if_neg (by decide), Nat.zero_add]
  by_cases hb : b = 0
  · rw [if_pos hb, if_pos hb]
  by_cases ha : a = 0
  · have e := specRoundQ_exact_mul tm 0 _ (Int.mul_ne_zero hb (Int.ne_of_gt (pow10_pos p)))
    rw [Int.zero_mul] at e
    rw [if_neg hb, if_neg hb, if_pos ha, ha, Int.zero_mul, e]
    rfl
  · rw [if_neg hb, if_neg hb, if_neg ha]

/-- every `quantize`: an allowed `div_rounded(…, 0)` outcome followed by the multiplication `K` -/
theorem quantize_glue (tm : Mode) (intQuant : Bool) (a : Int) (p : Nat) (b : Int) (q : Nat) (r : Outcome Dec) (K : Dec → Outcome Dec)
    (h : Spec.allowedOp (Spec.divRounded tm a p b q 0) (outPair r) = true)
    (hK : ∀ k : Int, Dom ⟨k, 0⟩ →
      Spec.allowedOp (if intQuant then Spec.mulInt k 0 b else Spec.mul tm k 0 b q) (outPair (K ⟨k, 0⟩)) = true) :
    Spec.allowedOp (Spec.quantize tm intQuant a p b q) (outPair (r >>= K)) = true := by
  unfold Spec.quantize
  rw [spec_divRounded_zero, valFit_eq] at h ⊢
  generalize Spec.specRoundQ tm (a * (10 : Int) ^ q) (b * (10 : Int) ^ p) = k at h ⊢
  -- the first step is expected to panic, to return the integer `k`, or (at `k = i128::MIN`) left open
  have panics : ∀ e : Spec.Exp, (e = .divzero ∨ e = .ovf) → Spec.allowedOp e (outPair r) = true →
      Spec.allowedOp e (outPair (r >>= K)) = true := by
    rintro e (rfl | rfl) h <;> rcases r with d | e <;> first | exact h | exact (Bool.false_ne_true h).elim
  by_cases hb : b = 0
  · rw [if_pos hb] at h ⊢
    exact panics _ (.inl rfl) h
  by_cases hm : k = I128_MIN
  · rw [if_neg hb, if_pos hm]
    rfl
  by_cases hf : fitsI128 k = true
  · rw [if_neg hb, if_neg hm, if_pos hf] at h ⊢
    rw [ok_of_allowed_val h]
    exact hK k (dom_of_fits hf hm (Nat.zero_le _))
  · rw [if_neg hb, if_neg hm, if_neg hf] at h ⊢
    exact panics _ (.inr rfl) h

/-- `x.quantize(q)` for two Decimals: `k·q` with `k = round_mode(x/q)`, represented as the product `k * q` -/
theorem quantize_spec (hwm : C02.WideMul) (hwd : WideDiv) (prof : Profile) (tm : Mode) (x q : Dec) (hx : Dom x) (hq : Dom q) :
    Spec.allowedOp (Spec.quantize tm false x.coeff x.nfrac q.coeff q.nfrac) (outPair (quantize prof tm x q)) = true :=
  quantize_glue tm false _ _ _ _ _ (fun r => mul prof tm r q) (div_rounded_spec hwd prof tm x q 0 hx hq)
    fun k hk => C02.mul_spec hwm prof tm ⟨k, 0⟩ q hk hq

theorem quantize_dec_int_spec (hwd : WideDiv) (prof : Profile) (tm : Mode) (x : Dec) (i : Int) (hx : Dom x)
    (hi : I128_MIN ≤ i ∧ i ≤ I128_MAX) :
    Spec.allowedOp (Spec.quantize tm true x.coeff x.nfrac i 0) (outPair (quantizeDecInt prof tm x i)) = true :=
  quantize_glue tm true _ _ _ _ _ (fun r => mulInt r i) (div_rounded_dec_int_spec hwd prof tm x i 0 hx hi)
    fun k _ => C02.mul_int_spec ⟨k, 0⟩ i

theorem quantize_int_dec_spec (hwm : C02.WideMul) (hwd : WideDiv) (prof : Profile) (tm : Mode) (i : Int) (q : Dec) (hq : Dom q)
    (hi : I128_MIN ≤ i ∧ i ≤ I128_MAX) :
    Spec.allowedOp (Spec.quantize tm false i 0 q.coeff q.nfrac) (outPair (quantizeIntDec prof tm i q)) = true :=
  quantize_glue tm false _ _ _ _ _ (fun r => mul prof tm r q) (div_rounded_int_dec_spec hwd prof tm i q 0 hq hi)
    fun k hk => C02.mul_spec hwm prof tm ⟨k, 0⟩ q hk hq

/-- `int.quantize(int)` (`n = 0`, so the missing guard of the int/int shape is irrelevant here) -/
theorem quantize_int_int_spec (hwd : WideDiv) (prof : Profile) (tm : Mode) (i j : Int)
    (hi : I128_MIN ≤ i ∧ i ≤ I128_MAX) (hj : I128_MIN ≤ j ∧ j ≤ I128_MAX) :
    Spec.allowedOp (Spec.quantize tm true i 0 j 0) (outPair (quantizeIntInt prof tm i j)) = true :=
  quantize_glue tm true _ _ _ _ _ (fun r => mulInt r j) (div_rounded_int_int_partial hwd prof tm i j 0 (Nat.zero_le _) hi hj)
    fun k _ => C02.mul_int_spec ⟨k, 0⟩ j

/-! ### non-vacuity -/
example : divRounded Profile.dev .heven ⟨51, 2⟩ ⟨2, 0⟩ 1 = .ok ⟨3, 1⟩ := by decide +kernel          -- 0.51 / 2 @1 = 0.3 (0.2 before the D7 repair)
example : divRounded Profile.dev .up ⟨41, 2⟩ ⟨2, 0⟩ 1 = .ok ⟨3, 1⟩ := by decide +kernel
example : divRoundedDecInt Profile.release .heven ⟨1, 0⟩ 3 19 = .panic .nfrac := by decide +kernel   -- D8 repaired shape
-- D13 repaired: the divisor `i128::MIN` (dev used to panic, release returned `0.1`)
example : divRoundedDecInt Profile.dev .up ⟨1515, 1⟩ I128_MIN 1 = .ok ⟨-1, 1⟩ := by decide +kernel
example : divRoundedDecInt Profile.release .up ⟨1515, 1⟩ I128_MIN 1 = .ok ⟨-1, 1⟩ := by decide +kernel
example : mulRounded Profile.dev .hup ⟨15, 1⟩ ⟨15, 1⟩ 1 = .ok ⟨23, 1⟩ := by decide +kernel
-- the dividend `i128::MIN` (an integer operand): narrow path, wide path, and the one pair whose exact quotient `2^127` overflows
-- (`i128::MIN / -1` panics in `i128_div_mod_floor`; the spec expects the overflow signal there)
example : divRoundedIntDec Profile.dev .heven I128_MIN ⟨-3, 0⟩ 0 = .ok ⟨56713727820156410577229101238628035243, 0⟩ ∧
    Spec.allowedOp (Spec.divRounded .heven I128_MIN 0 (-3) 0 0) (outPair (divRoundedIntDec Profile.dev .heven I128_MIN ⟨-3, 0⟩ 0)) = true := by
  decide
example : divRoundedIntDec Profile.release .hup I128_MIN ⟨I128_MIN + 1, 0⟩ 1 = .ok ⟨10, 1⟩ ∧
    Spec.allowedOp (Spec.divRounded .hup I128_MIN 0 (I128_MIN + 1) 0 1)
      (outPair (divRoundedIntDec Profile.release .hup I128_MIN ⟨I128_MIN + 1, 0⟩ 1)) = true := by
  decide
example : divRoundedIntDec Profile.dev .heven I128_MIN ⟨-1, 0⟩ 0 = .panic .arith ∧
    Spec.divRounded .heven I128_MIN 0 (-1) 0 0 = .ovf ∧
    Spec.allowedOp (Spec.divRounded .heven I128_MIN 0 (-1) 0 0) (outPair (divRoundedIntDec Profile.dev .heven I128_MIN ⟨-1, 0⟩ 0)) = true := by
  decide
example : divRoundedIntInt Profile.dev .heven I128_MIN (-2) 0 = .ok ⟨85070591730234615865843651857942052864, 0⟩ ∧
    Spec.allowedOp (Spec.divRounded .heven I128_MIN 0 (-2) 0 0) (outPair (divRoundedIntInt Profile.dev .heven I128_MIN (-2) 0)) = true := by
  decide
example : divRoundedIntInt Profile.release .heven I128_MIN (-1) 0 = .panic .arith ∧
    Spec.allowedOp (Spec.divRounded .heven I128_MIN 0 (-1) 0 0) (outPair (divRoundedIntInt Profile.release .heven I128_MIN (-1) 0)) = true := by
  decide
example : checkedDivRounded Profile.dev .heven I128_MIN 0 (-1) 0 0 = .panic .arith ∧
    checkedDivRounded Profile.dev .heven I128_MIN 0 (-1) 0 1 = .ok none := by decide +kernel
example : quantizeIntDec Profile.dev .heven I128_MIN ⟨-25, 1⟩ = .panic .overflow ∧
    Spec.allowedOp (Spec.quantize .heven false I128_MIN 0 (-25) 1) (outPair (quantizeIntDec Profile.dev .heven I128_MIN ⟨-25, 1⟩)) = true := by
  decide
example : quantizeIntDec Profile.dev .heven I128_MIN ⟨I128_MAX, 0⟩ = .ok ⟨-I128_MAX, 0⟩ ∧
    Spec.allowedOp (Spec.quantize .heven false I128_MIN 0 I128_MAX 0) (outPair (quantizeIntDec Profile.dev .heven I128_MIN ⟨I128_MAX, 0⟩)) = true := by
  decide
example : quantizeIntInt Profile.dev .heven I128_MIN 4 = .ok ⟨I128_MIN, 0⟩ ∧
    Spec.allowedOp (Spec.quantize .heven true I128_MIN 0 4 0) (outPair (quantizeIntInt Profile.dev .heven I128_MIN 4)) = true := by
  decide

/-! ### translated kernels
The Lean definitions `Gen.K.*` are regenerated from the Rust source on every run by `tools/fpkernels.py` (expression-level
translation).  These theorems tie them to the hand-written model the property theorems above are about: a change of the Rust
kernel that changes its translation breaks them. -/
theorem kernel_ten_pow (prof : Profile) (n : Nat) : Gen.K.ten_pow prof n = tenPow n := Kernels.ten_pow_eq prof n
theorem kernel_mul_pow_ten (prof : Profile) (val : Int) (n : Nat) : Gen.K.mul_pow_ten prof val n = mulPowTen val n :=
  Kernels.mul_pow_ten_eq prof val n
theorem kernel_checked_mul_pow_ten (prof : Profile) (val : Int) (n : Nat) :
    Gen.K.checked_mul_pow_ten prof val n = .ok (checkedMulPowTen val n) := Kernels.checked_mul_pow_ten_eq prof val n
theorem kernel_i128_div_rounded (prof : Profile) (tm : Mode) (a b : Int) (mode : Option Mode) (ha : fitsI128 a = true) :
    Gen.K.i128_div_rounded prof tm a b mode = i128DivRounded prof tm a b mode :=
  Kernels.i128_div_rounded_eq prof tm a b mode ha
theorem kernel_i128_shifted_div_rounded (prof : Profile) (tm : Mode) (a : Int) (p : Nat) (b : Int) (mode : Option Mode) :
    Gen.K.i128_shifted_div_rounded prof tm a p b mode = i128ShiftedDivRounded prof tm a p b mode :=
  Kernels.i128_shifted_div_rounded_eq prof tm a p b mode
theorem kernel_i128_mul_div_ten_pow_rounded (prof : Profile) (tm : Mode) (x y : Int) (p : Nat) (mode : Option Mode) :
    Gen.K.i128_mul_div_ten_pow_rounded prof tm x y p mode = i128MulDivTenPowRounded prof tm x y p mode :=
  Kernels.i128_mul_div_ten_pow_rounded_eq prof tm x y p mode

theorem kernel_checked_mul_rounded (prof : Profile) (tm : Mode) (x y : Dec) (n : Nat) (hn : n < 256) :
    Gen.K.checked_mul_rounded prof tm x y n = checkedMulRounded prof tm x y n :=
  Kernels.checked_mul_rounded_eq prof tm x y n hn
theorem kernel_checked_div_rounded (prof : Profile) (tm : Mode) (a : Int) (p : Nat) (b : Int) (q n : Nat)
    (ha : fitsI128 a = true) (hp : p ≤ 38) :
    Gen.K.checked_div_rounded prof tm a p b q n = checkedDivRounded prof tm a p b q n :=
  Kernels.checked_div_rounded_eq prof tm a p b q n ha hp

/-- the Decimal-by-Decimal operator bodies of mul.rs, checked_mul.rs and mul_rounded.rs, as translated on this run -/
theorem kernel_decimal_mul (prof : Profile) (tm : Mode) (x y : Dec) : Gen.K.decimal_mul prof tm x y = mul prof tm x y :=
  Kernels.decimal_mul_eq prof tm x y
theorem kernel_decimal_checked_mul (prof : Profile) (x y : Dec) : Gen.K.decimal_checked_mul prof x y = checkedMul prof x y :=
  Kernels.decimal_checked_mul_eq prof x y
theorem kernel_decimal_mul_rounded (prof : Profile) (tm : Mode) (x y : Dec) (n : Nat) (hn : n < 256) :
    Gen.K.decimal_mul_rounded prof tm x y n = mulRounded prof tm x y n := Kernels.decimal_mul_rounded_eq prof tm x y n hn
/-- the Decimal-by-Decimal operator bodies of div.rs, checked_div.rs and div_rounded.rs, as translated on this run -/
theorem kernel_decimal_div (prof : Profile) (tm : Mode) (x y : Dec) (hx : fitsI128 x.coeff = true) (hp : x.nfrac ≤ 38) :
    Gen.K.decimal_div prof tm x y = div prof tm x y := Kernels.decimal_div_eq prof tm x y hx hp
theorem kernel_decimal_checked_div (prof : Profile) (tm : Mode) (x y : Dec) (hx : fitsI128 x.coeff = true) (hp : x.nfrac ≤ 38) :
    Gen.K.decimal_checked_div prof tm x y = checkedDiv prof tm x y := Kernels.decimal_checked_div_eq prof tm x y hx hp
theorem kernel_decimal_div_rounded (prof : Profile) (tm : Mode) (x y : Dec) (n : Nat) (hx : fitsI128 x.coeff = true)
    (hp : x.nfrac ≤ 38) :
    Gen.K.decimal_div_rounded prof tm x y n = divRounded prof tm x y n := Kernels.decimal_div_rounded_eq prof tm x y n hx hp

/-- the integer forms of `/` and `checked_div` (both operand orders), as translated on this run -/
theorem kernel_decimal_div_int (prof : Profile) (tm : Mode) (d : Dec) (i : Int) (hd : fitsI128 d.coeff = true) (hp : d.nfrac ≤ 38) :
    Gen.K.decimal_div_int prof tm d i = opOfChecked (i = 0) (divDecInt prof tm d i) :=
  Kernels.decimal_div_int_eq prof tm d i hd hp
theorem kernel_decimal_checked_div_int (prof : Profile) (tm : Mode) (d : Dec) (i : Int) (hd : fitsI128 d.coeff = true)
    (hp : d.nfrac ≤ 38) :
    Gen.K.decimal_checked_div_int prof tm d i = checkedOfChecked (i = 0) (divDecInt prof tm d i) :=
  Kernels.decimal_checked_div_int_eq prof tm d i hd hp
theorem kernel_int_div_decimal (prof : Profile) (tm : Mode) (i : Int) (d : Dec) (hi : fitsI128 i = true) :
    Gen.K.int_div_decimal prof tm i d = opOfChecked (eqZero d) (divIntDec prof tm i d) :=
  Kernels.int_div_decimal_eq prof tm i d hi
theorem kernel_int_checked_div_decimal (prof : Profile) (tm : Mode) (i : Int) (d : Dec) (hi : fitsI128 i = true) :
    Gen.K.int_checked_div_decimal prof tm i d = checkedOfChecked (eqZero d) (divIntDec prof tm i d) :=
  Kernels.int_checked_div_decimal_eq prof tm i d hi

/-- the integer forms of `div_rounded` (Decimal/int, int/Decimal, int/int), as translated on this run; the int/int body has no
    `n_frac_digits` guard — the open finding D8 is visible in the translation itself -/
theorem kernel_decimal_div_rounded_int (prof : Profile) (tm : Mode) (d : Dec) (i : Int) (n : Nat) (hd : fitsI128 d.coeff = true)
    (hp : d.nfrac ≤ 38) :
    Gen.K.decimal_div_rounded_int prof tm d i n = divRoundedDecInt prof tm d i n :=
  Kernels.decimal_div_rounded_int_eq prof tm d i n hd hp
theorem kernel_int_div_rounded_decimal (prof : Profile) (tm : Mode) (i : Int) (d : Dec) (n : Nat) (hi : fitsI128 i = true) :
    Gen.K.int_div_rounded_decimal prof tm i d n = divRoundedIntDec prof tm i d n :=
  Kernels.int_div_rounded_decimal_eq prof tm i d n hi
theorem kernel_int_div_rounded_int (prof : Profile) (tm : Mode) (i j : Int) (n : Nat) (hi : fitsI128 i = true) :
    Gen.K.int_div_rounded_int prof tm i j n = divRoundedIntInt prof tm i j n :=
  Kernels.int_div_rounded_int_eq prof tm i j n hi

/-- the generic `Quantize::quantize` (`self.div_rounded(quant, 0) * quant`), instantiated for the four operand shapes -/
theorem kernel_quantize_dec_dec (prof : Profile) (tm : Mode) (x q : Dec) (hx : fitsI128 x.coeff = true) (hp : x.nfrac ≤ 38) :
    Gen.K.quantize_dec_dec prof tm x q = quantize prof tm x q := Kernels.quantize_dec_dec_eq prof tm x q hx hp
theorem kernel_quantize_dec_int (prof : Profile) (tm : Mode) (x : Dec) (i : Int) (hx : fitsI128 x.coeff = true) (hp : x.nfrac ≤ 38) :
    Gen.K.quantize_dec_int prof tm x i = quantizeDecInt prof tm x i := Kernels.quantize_dec_int_eq prof tm x i hx hp
theorem kernel_quantize_int_dec (prof : Profile) (tm : Mode) (i : Int) (q : Dec) (hi : fitsI128 i = true) :
    Gen.K.quantize_int_dec prof tm i q = quantizeIntDec prof tm i q := Kernels.quantize_int_dec_eq prof tm i q hi
theorem kernel_quantize_int_int (prof : Profile) (tm : Mode) (i j : Int) (hi : fitsI128 i = true) :
    Gen.K.quantize_int_int prof tm i j = quantizeIntInt prof tm i j := Kernels.quantize_int_int_eq prof tm i j hi

/-! ### algebraic laws: `div_rounded` by one, `quantize` -/

private theorem spec_divRounded_one (tm : Mode) (a : Int) (p : Nat) (b : Int) (q n : Nat) (hb : b = (10 : Int) ^ q)
    (ha0 : a ≠ 0) (hn : p ≤ n) (hn18 : n ≤ 18) :
    Spec.divRounded tm a p b q n = Spec.valFit (a * (10 : Int) ^ (n - p)) n := by
  have hb0 : b ≠ 0 := by rw [hb]; exact Int.ne_of_gt (pow10_pos q)
  have hd : b * (10 : Int) ^ p ≠ 0 := Int.mul_ne_zero hb0 (Int.ne_of_gt (pow10_pos p))
  have e : a * (10 : Int) ^ (n + q) = a * (10 : Int) ^ (n - p) * (b * (10 : Int) ^ p) := by
    have : n + q = (n - p) + (q + p) := by omega
    rw [hb, this, Int.pow_add, Int.pow_add, Int.mul_assoc]
  unfold Spec.divRounded
  simp only [show ¬ n > 18 by omega, hb0, ha0, if_false]
  rw [e, specRoundQ_exact_mul tm _ _ hd]

/-- any result of `x.div_rounded(Decimal::ONE, n)`, `n ≥ p`, has the value of `x` (a zero `x` gives `Decimal::ZERO`) -/
theorem div_rounded_ONE_value (hw : WideDiv) (prof : Profile) (tm : Mode) (x r : Dec) (n : Nat) (hx : Dom x)
    (hn : x.nfrac ≤ n) (hn18 : n ≤ 18) (h : divRounded prof tm x Dec.ONE n = .ok r) :
    r.coeff * (10 : Int) ^ x.nfrac = x.coeff * (10 : Int) ^ r.nfrac ∧ (x.coeff ≠ 0 → r.nfrac = n) := by
  by_cases h0 : x.coeff = 0
  · have : divRounded prof tm x Dec.ONE n = .ok Dec.ZERO := by
      unfold divRounded
      simp [eqZero, h0, max_nfrac, show ¬ n > 18 by omega, Dec.ONE]
    rw [this] at h
    cases h
    simp [Dec.ZERO, h0]
  · -- the exact quotient by one is `x` with `n - p` zeros appended; whether it fits or not, a result is that
    have hs := div_rounded_spec hw prof tm x Dec.ONE n hx (by decide)
    rw [h, spec_divRounded_one tm _ _ _ _ n (by decide) h0 hn hn18] at hs
    obtain ⟨hc, hq, -⟩ := of_valFit_ok hs
    rw [hc, hq, Int.mul_assoc, ← Int.pow_add, Nat.sub_add_cancel hn]
    exact ⟨rfl, fun _ => rfl⟩

example : divRounded Profile.dev .heven ⟨-25, 1⟩ Dec.ONE 3 = .ok ⟨-2500, 3⟩ ∧ divRounded Profile.dev .up ⟨-25, 1⟩ ⟨100, 2⟩ 1 = .ok ⟨-25, 1⟩ ∧
    divRounded Profile.release .floor ⟨0, 5⟩ Dec.ONE 7 = .ok ⟨0, 0⟩ ∧
    divRounded Profile.release .floor Dec.MAX Dec.ONE 1 = .panic .overflow := by decide +kernel

/-- the integer `k` of `x.quantize(q) = k·q`: the exact quotient `x / q` rounded to an integer under the mode -/
def quantQuot (tm : Mode) (x q : Dec) : Int :=
  Spec.specRoundQ tm (x.coeff * (10 : Int) ^ q.nfrac) (q.coeff * (10 : Int) ^ x.nfrac)

theorem quantize_ok (hwd : WideDiv) (prof : Profile) (tm : Mode) (x q r : Dec) (hx : Dom x) (hq : Dom q)
    (h : quantize prof tm x q = .ok r) :
    q.coeff ≠ 0 ∧ fitsI128 (quantQuot tm x q) = true ∧ mul prof tm ⟨quantQuot tm x q, 0⟩ q = .ok r := by
  have hs := div_rounded_spec hwd prof tm x q 0 hx hq
  rw [spec_divRounded_zero] at hs
  unfold quantize at h
  generalize divRounded prof tm x q 0 = r1 at hs h
  rcases r1 with ⟨c, n⟩ | k
  · split at hs
    · exact (Bool.false_ne_true hs).elim
    · next hb0 =>
      obtain ⟨rfl, rfl, hf⟩ := of_valFit_ok hs
      exact ⟨hb0, hf, h⟩
  · cases h

/-- as values `r = k·q` with `k = quantQuot`, cross-multiplied to stay in the integers -/
theorem quantize_multiple (hwd : WideDiv) (prof : Profile) (tm : Mode) (x q r : Dec) (hx : Dom x) (hq : Dom q)
    (h : quantize prof tm x q = .ok r) :
    r.coeff * (10 : Int) ^ q.nfrac = quantQuot tm x q * q.coeff * (10 : Int) ^ r.nfrac := by
  obtain ⟨-, -, h2⟩ := quantize_ok hwd prof tm x q r hx hq h
  have := C02.mul_exact_value prof tm ⟨quantQuot tm x q, 0⟩ q r (by have := hq.2.2; simp; omega) h2
  simpa using this

/-- for a quantum `10^j / 10^qn` the quotient is never `i128::MIN`: it is `a` with zeros appended (`2^127` is no multiple of ten), or `a`
    divided by a power of ten -/
private theorem quot_ne_min (tm : Mode) (x q : Dec) (j : Nat) (hx : Dom x) (hq : q.coeff = (10 : Int) ^ j) :
    quantQuot tm x q ≠ I128_MIN := by
  unfold quantQuot
  rw [hq, ← Int.pow_add]
  by_cases hc : j + x.nfrac ≤ q.nfrac
  · rw [pow10_split hc, ← Int.mul_assoc, specRoundQ_exact_mul tm _ _ (Int.ne_of_gt (pow10_pos _))]
    exact mul_pow10_ne_min_of_ne (Int.ne_of_gt hx.1) _
  · rw [pow10_split (show q.nfrac ≤ j + x.nfrac by omega),
      specRoundQ_scale tm _ _ _ (Int.ne_of_gt (pow10_pos _)) (Int.ne_of_gt (pow10_pos _)), specRoundQ_pos tm _ (pow10_pos _)]
    exact Int.ne_of_gt (specRound_dom tm _ _ ⟨hx.1, hx.2.1⟩ (pow10_pos _)).1.1

/-- dividing an exact multiple `k·q` (any i128 coefficient, `i128::MIN` included) by `q` to zero digits gives `k` back -/
private theorem divRounded_exact (hw : WideDiv) (prof : Profile) (tm : Mode) (r q : Dec) (k : Int)
    (hr : I128_MIN ≤ r.coeff ∧ r.coeff ≤ I128_MAX) (hrq : r.nfrac ≤ q.nfrac) (hq : Dom q) (hb0 : q.coeff ≠ 0)
    (hk : I128_MIN < k ∧ k ≤ I128_MAX) (he : r.coeff * (10 : Int) ^ q.nfrac = k * q.coeff * (10 : Int) ^ r.nfrac) :
    divRounded prof tm r q 0 = .ok ⟨k, 0⟩ := by
  have hs := div_rounded_spec_full hw prof tm r q 0 ⟨hr.1, hr.2, by have := hq.2.2; omega⟩ hq.domI (by omega)
  rw [spec_divRounded_zero, if_neg hb0, he, Int.mul_assoc,
    specRoundQ_exact_mul tm k _ (Int.mul_ne_zero hb0 (Int.ne_of_gt (pow10_pos _))),
    valFit_of_fits 0 (Int.ne_of_gt hk.1) ((fitsI128_iff k).mpr ⟨Int.le_of_lt hk.1, hk.2⟩)] at hs
  exact ok_of_allowed_val hs

/-- value and representation; the result may have the coefficient `i128::MIN` (outside `Dom`, see the example): the law holds there too -/
theorem quantize_idempotent (hwd : WideDiv) (prof : Profile) (tm : Mode) (x q r : Dec) (hx : Dom x) (hq : Dom q)
    (h : quantize prof tm x q = .ok r) : quantize prof tm r q = .ok r := by
  obtain ⟨hb0, hkf, h2⟩ := quantize_ok hwd prof tm x q r hx hq h
  have hkr := (fitsI128_iff _).mp hkf
  -- by the way the product `r` was formed: it is an i128 with no more digits than `q`, and `k` is not `i128::MIN`
  have key : (I128_MIN ≤ r.coeff ∧ r.coeff ≤ I128_MAX) ∧ r.nfrac ≤ q.nfrac ∧ quantQuot tm x q ≠ I128_MIN := by
    have hcases := C02.mul_exact_cases prof tm ⟨quantQuot tm x q, 0⟩ q r (by have := hq.2.2; simp; omega) h2
    simp only at hcases
    rcases hcases with ⟨rfl, h0⟩ | ⟨rfl, hone⟩ | ⟨rfl, hk1⟩ | ⟨rfl, hf⟩
    · exact ⟨by decide, Nat.zero_le _, by rw [h0.resolve_right hb0]; decide⟩
    · exact ⟨hkr, Nat.zero_le _, quot_ne_min tm x q q.nfrac hx hone⟩
    · exact ⟨⟨Int.le_of_lt hq.1, hq.2.1⟩, Nat.le_refl _, by rw [hk1]; decide⟩
    · refine ⟨(fitsI128_iff _).mp hf, by simp, fun hmin => quot_ne_min tm x q 0 hx ?_ hmin⟩
      -- `i128::MIN · b` fits only for `b = 1` (`b ≠ 0`)
      have hfr := (fitsI128_iff _).mp hf
      simp only [hmin] at hfr
      unfold I128_MIN I128_MAX at hfr
      omega
  obtain ⟨hr, hrq, hkne⟩ := key
  unfold quantize
  rw [divRounded_exact hwd prof tm r q _ hr hrq hq hb0 ⟨Int.lt_iff_le_and_ne.mpr ⟨hkr.1, Ne.symm hkne⟩, hkr.2⟩
    (quantize_multiple hwd prof tm x q r hx hq h)]
  exact h2

/-- the same as an equality of outcomes: quantizing twice is quantizing once -/
theorem quantize_quantize (hwd : WideDiv) (prof : Profile) (tm : Mode) (x q : Dec) (hx : Dom x) (hq : Dom q) :
    (quantize prof tm x q >>= fun r => quantize prof tm r q) = quantize prof tm x q := by
  cases h : quantize prof tm x q with
  | panic k => rfl
  | ok r => exact quantize_idempotent hwd prof tm x q r hx hq h

example : quantize Profile.dev .heven ⟨-1234, 2⟩ ⟨25, 2⟩ = .ok ⟨-1225, 2⟩ ∧ quantize Profile.dev .heven ⟨-1225, 2⟩ ⟨25, 2⟩ = .ok ⟨-1225, 2⟩ ∧
    quantQuot .heven ⟨-1234, 2⟩ ⟨25, 2⟩ = -49 ∧ (-1225 : Int) * 10 ^ 2 = -49 * 25 * 10 ^ 2 ∧
    quantize Profile.release .up ⟨1234, 3⟩ ⟨100, 2⟩ = .ok ⟨2, 0⟩ ∧ quantize Profile.release .up ⟨2, 0⟩ ⟨100, 2⟩ = .ok ⟨2, 0⟩ ∧
    quantize Profile.dev .floor ⟨15, 1⟩ ⟨-7, 1⟩ = .ok ⟨21, 1⟩ ∧ quantize Profile.dev .floor ⟨21, 1⟩ ⟨-7, 1⟩ = .ok ⟨21, 1⟩ := by decide +kernel
-- a result outside the Decimal domain: the coefficient `i128::MIN` — idempotence still holds
example : quantize Profile.dev .floor ⟨I128_MIN + 1, 0⟩ ⟨2, 0⟩ = .ok ⟨I128_MIN, 0⟩ ∧
    quantize Profile.dev .floor ⟨I128_MIN, 0⟩ ⟨2, 0⟩ = .ok ⟨I128_MIN, 0⟩ := by decide +kernel

end Fpdec.Props.C04
