import Fpdec.Gen.Sites
import Fpdec.Model.Pinned

/-! Site ties for C16 (written by tools/mksites.py): the flavour skeleton of every source file the property's operations
execute, as regenerated from /repo on this run, equals the skeleton the model was written against. -/

namespace Fpdec.Props.C16

theorem tie_sites_fpdec_core_src_lib : Gen.sites_fpdec_core_src_lib = Pinned.sites_fpdec_core_src_lib := rfl
theorem tie_sites_fpdec_core_src_powers_of_ten : Gen.sites_fpdec_core_src_powers_of_ten = Pinned.sites_fpdec_core_src_powers_of_ten := rfl
theorem tie_sites_fpdec_core_src_rounding : Gen.sites_fpdec_core_src_rounding = Pinned.sites_fpdec_core_src_rounding := rfl
theorem tie_sites_src_lib : Gen.sites_src_lib = Pinned.sites_src_lib := rfl
theorem tie_sites_src_binops_mul : Gen.sites_src_binops_mul = Pinned.sites_src_binops_mul := rfl
theorem tie_sites_src_binops_checked_mul : Gen.sites_src_binops_checked_mul = Pinned.sites_src_binops_checked_mul := rfl
theorem tie_sites_src_binops_mul_rounded : Gen.sites_src_binops_mul_rounded = Pinned.sites_src_binops_mul_rounded := rfl
theorem tie_sites_src_binops_div : Gen.sites_src_binops_div = Pinned.sites_src_binops_div := rfl
theorem tie_sites_src_binops_checked_div : Gen.sites_src_binops_checked_div = Pinned.sites_src_binops_checked_div := rfl
theorem tie_sites_src_binops_div_rounded : Gen.sites_src_binops_div_rounded = Pinned.sites_src_binops_div_rounded := rfl
theorem tie_sites_src_quantize : Gen.sites_src_quantize = Pinned.sites_src_quantize := rfl

end Fpdec.Props.C16
