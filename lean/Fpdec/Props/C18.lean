import Fpdec.Kernels.FromStr
import Fpdec.Kernels.Parse
import Fpdec.Lemmas.Parse
import Fpdec.Lemmas.IntTy
import Fpdec.Props.C18_Sites

/-!
# C18 — The Dec! macro and runtime parsing agree on every literal

`macro_fold_eq`: the part of `Dec!` that follows `TokenStream::to_string` (strip the white space after a leading sign, `str_to_dec`,
exponent folding with `checked_mul(10^e)`) computes, for EVERY source string, exactly what `Decimal::from_str` computes on the
text so stripped: the same `Decimal` (coefficient and fractional digits) when it is accepted and an error — i.e. a compile-time
panic — exactly when `from_str` fails, with the same error kind.  Both call the shared `str_to_dec`; the theorem is about the two
separately written tails.  Rust's lexer and `TokenStream::to_string` are not modelled: the check compiles generated `Dec!(<lit>)` programs
with rustc and compares with `from_str` on the literal text (partial: the token path is exercised, not proved).
-/

namespace Fpdec.Props.C18
open Fpdec Fpdec.Model

/-- the coefficient returned by `str_to_dec` is an `i128` -/
theorem strToDec_coeff_fits (prof : Profile) (s : List Nat) (c e : Int)
    (h : strToDec prof s = .ok (.ok (c, e))) : fitsI128 c = true :=
  ParseAux.strToDec_fits prof s _ h c e rfl

/-- the folding of `Dec!` equals `Decimal::from_str` on the text without the blanks after a sign (`macroStripBlank`) — value, digit
    count and error kind -/
theorem macro_fold_eq (prof : Profile) (src : List Nat) :
    macroFold prof src = fromStr prof (macroStripBlank src) := by
  unfold macroFold fromStr
  cases hs : strToDec prof (macroStripBlank src) with
  | panic k => rfl
  | ok r =>
    cases r with
    | error err => rfl
    | ok ce =>
      obtain ⟨c, e⟩ := ce
      have hfit := strToDec_coeff_fits prof _ c e hs
      simp only [ParseAux.m18, ParseAux.m38]
      cases hn : IntTy.isize.plain prof (-e) with
      | panic k => rfl
      | ok nexp =>
        simp only
        by_cases h18 : nexp > 18
        · simp only [h18, if_true]
        · by_cases h38 : e > 38
          · -- beyond the table only zero survives
            by_cases hc0 : c = 0
            · subst hc0
              simp only [h18, h38, if_true, if_false, ne_eq, not_true]
              rfl
            · simp only [h18, h38, hc0, if_true, if_false, ne_eq, not_false_eq_true]
          · by_cases hpos : e > 0
            · simp only [h18, h38, hpos, if_true, if_false, show ¬ e < 0 by omega]
              rw [u8_cast_id (by omega) (by omega), checkedMulPowTen_eq c e.toNat (by omega)]
            · simp only [h18, h38, hpos, if_false, hn]
              by_cases hneg : e < 0
              · simp only [hneg, if_true]
              · -- `e = 0`: nothing to multiply by in the macro, `checked_mul(1)` in `from_str`
                obtain rfl : e = 0 := by omega
                simp only [hneg, if_false]
                rw [u8_cast_id (Int.le_refl 0) (by decide), checkedMulPowTen_eq c _ (by decide)]
                have : nexp = 0 := by cases hn; rfl
                subst this
                rw [show c * 10 ^ (0 : Int).toNat = c from Int.mul_one c, checkedI128_some hfit]
                rfl

/-- the sign fix-up only touches white space directly after a leading sign (D15: a blank, a tab, or the line break that
    `TokenStream::to_string` puts in front of a long literal) -/
theorem strip_blank_spec (s : List Nat) :
    macroStripBlank s = (match s with
      | 45 :: r => 45 :: r.dropWhile isAsciiWs
      | 43 :: r => 43 :: r.dropWhile isAsciiWs
      | s => s) := by
  unfold macroStripBlank; rfl

/-- `Dec!(- lit)`, `Dec!(-<line break>lit)` and `Dec!(-lit)` fold to the same constant: white space between sign and number is irrelevant -/
theorem sign_separator_irrelevant (prof : Profile) (sign : Nat) (hs : sign = 45 ∨ sign = 43) (ws rest : List Nat)
    (hws : ∀ c ∈ ws, isAsciiWs c = true) (hr : ∀ c, rest.head? = some c → isAsciiWs c = false) :
    macroFold prof (sign :: (ws ++ rest)) = macroFold prof (sign :: rest) := by
  unfold macroFold
  rcases hs with h | h <;> subst h <;> simp only [macroStripBlank, List.dropWhile_append_of_pos hws]

/-! ### non-vacuity -/
example : macroFold Profile.dev [45, 32, 49, 46, 53] = .ok (.ok ⟨-15, 1⟩) := by decide +kernel       -- "- 1.5"
example : macroFold Profile.dev [45, 10, 49, 46, 53] = .ok (.ok ⟨-15, 1⟩) := by decide +kernel       -- "-\n1.5" (D15)
example : macroFold Profile.dev [48, 101, 57, 57] = .ok (.ok ⟨0, 0⟩) := by decide +kernel           -- "0e99"
example : macroFold Profile.dev [49, 101, 51, 57] = .ok (.error .overflow) := by decide +kernel     -- "1e39": does not compile

/-! ### translated kernels
The Lean definitions `Gen.K.*` are regenerated from the Rust source on every run by `tools/fpkernels.py` (expression-level
translation).  These theorems tie them to the hand-written model the property theorems above are about: a change of the Rust
kernel that changes its translation breaks them. -/
/-- `impl FromStr for Decimal` (everything after the parser call), as translated on this run -/
theorem kernel_decimal_from_str (prof : Profile) (lit : List Nat) : Gen.K.decimal_from_str prof lit = fromStr prof lit :=
  Kernels.decimal_from_str_eq prof lit
/-- the `Dec!` proc macro as a function of the literal text (a panic of the macro = does not compile = `Err`), as translated on this
    run from fpdec-macros/src/lib.rs -/
theorem kernel_dec_fold (prof : Profile) (src : List Nat) :
    Gen.K.dec_fold prof (macroStripBlank src) =
      (fun r => r.map (fun d : Dec => (d.coeff, d.nfrac))) <$> macroFold prof src := Kernels.dec_fold_eq prof src

/-- the parser `Dec!` runs at compile time, as translated on this run -/
theorem kernel_str_to_dec (prof : Profile) (lit : List Nat) (h : lit.length < 2 ^ 63) :
    Gen.K.str_to_dec prof lit = strToDec prof lit := Kernels.str_to_dec_eq prof lit h

end Fpdec.Props.C18
