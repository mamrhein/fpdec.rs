import Fpdec.Kernels.FromFloat
import Fpdec.Lemmas.FromFloat
import Fpdec.Props.C13_Sites

/-!
# C13 — f64/f32 to Decimal yields the nearest 18-digit Decimal or a precise error

* `try_from_float_spec`: for every bit pattern of an f64 / f32 and every build profile the model of `Decimal::try_from(f)`
  returns what `Spec.fromFloat` prescribes: `InfiniteValue` / `NotANumber` for the non-finite patterns, otherwise the exact
  rational value of the pattern (`Spec.decodeBits`) rounded half-even to 18 fractional digits (`Spec.specRound .heven`) with
  trailing zeros removed (`Spec.normalizeSpec`), or `InternalOverflow` when that coefficient does not fit an i128.  At the single
  value `-2^127` the statement leaves value-or-overflow open.
* `try_from_float_total`: no bit pattern makes the conversion panic, in any profile.
* `heven_nearest`, `normalizeSpec_value`, `from_float_nearest`, `from_float_integral_dvd`: the spec itself is justified — a returned
  Decimal `c·10^-k` is within half a unit of the 18th digit of the float's exact value, an exact tie goes to the even 18-digit
  coefficient, the result has no trailing fractional zero, and a float with an integral value is converted exactly.
-/

namespace Fpdec.Props.C13
open Fpdec Fpdec.Model

theorem try_from_float_spec (prof : Profile) (f : Spec.FloatFmt) (hf : f = Spec.FloatFmt.f64 ∨ f = Spec.FloatFmt.f32)
    (bits : Nat) (hb : bits < 2 ^ f.bits) :
    fromFloatAllowed (Spec.fromFloat f bits) (fromFloatOut (tryFromFloat prof f bits)) := by
  rw [tryFromFloat_eq_spec prof f hf bits hb]
  cases Spec.fromFloat f bits <;> first | rfl | exact Or.inl rfl

theorem try_from_float_total (prof : Profile) (f : Spec.FloatFmt) (hf : f = Spec.FloatFmt.f64 ∨ f = Spec.FloatFmt.f32)
    (bits : Nat) (hb : bits < 2 ^ f.bits) : ∃ r, tryFromFloat prof f bits = .ok r :=
  ⟨_, tryFromFloat_eq_spec prof f hf bits hb⟩

/-- half-even rounding of `n/d` is a nearest integer, and the even one on an exact tie -/
theorem heven_nearest (n d : Int) (hd : 0 < d) :
    2 * ((Spec.specRound .heven n d * d - n).natAbs : Int) ≤ d ∧
    (2 * ((Spec.specRound .heven n d * d - n).natAbs : Int) = d → Spec.specRound .heven n d % 2 = 0) := by
  obtain ⟨g1, g2, g3⟩ := heven_near n d hd
  exact ⟨by omega, fun h => g3 (by omega)⟩

/-- removing trailing zeros keeps the value, never raises the scale and leaves no trailing fractional zero
    (when the fuel covers the scale) -/
theorem normalizeSpec_value : ∀ (fuel : Nat) (c : Int) (p : Nat), p < fuel →
    (Spec.normalizeSpec fuel c p).2 ≤ p ∧
    (Spec.normalizeSpec fuel c p).1 * (10 : Int) ^ (p - (Spec.normalizeSpec fuel c p).2) = c ∧
    ((Spec.normalizeSpec fuel c p).2 > 0 → (Spec.normalizeSpec fuel c p).1 % 10 ≠ 0) :=
  normalizeSpec_spec

/-- the sign / magnitude / exact value of a finite bit pattern, as used by `Spec.fromFloat` -/
def exactNum (f : Spec.FloatFmt) (bits : Nat) : Int :=
  if (bits >>> (f.bits - 1)) % 2 = 1 then -((Spec.decodeBits f (bits % 2 ^ (f.bits - 1))).1 : Int)
  else (Spec.decodeBits f (bits % 2 ^ (f.bits - 1))).1
def exactDen (f : Spec.FloatFmt) (bits : Nat) : Int := (Spec.decodeBits f (bits % 2 ^ (f.bits - 1))).2

theorem fromFloat_finite (f : Spec.FloatFmt) (bits : Nat)
    (hfin : (bits >>> f.fracBits) % 2 ^ f.expBits ≠ 2 ^ f.expBits - 1) :
    Spec.fromFloat f bits = specOf (exactNum f bits) (exactDen f bits) := by
  rw [fromFloat_eq, if_neg hfin]; rfl

/-- what a successful conversion of a finite pattern returns: `(c, k) = normalize(round_half_even(value · 10^18))` -/
theorem from_float_value (prof : Profile) (f : Spec.FloatFmt) (hf : f = Spec.FloatFmt.f64 ∨ f = Spec.FloatFmt.f32)
    (bits : Nat) (hb : bits < 2 ^ f.bits) (hfin : (bits >>> f.fracBits) % 2 ^ f.expBits ≠ 2 ^ f.expBits - 1)
    (d : Dec) (h : tryFromFloat prof f bits = .ok (.ok d)) :
    (d.coeff, d.nfrac) =
      Spec.normalizeSpec 19 (Spec.specRound .heven (exactNum f bits * 10 ^ 18) (exactDen f bits)) 18 := by
  rw [tryFromFloat_eq_spec prof f hf bits hb, fromFloat_finite f bits hfin] at h
  rw [(toResult_expOf_eq_ok h).2]

theorem exactDen_pos (f : Spec.FloatFmt) (bits : Nat) : 0 < exactDen f bits :=
  Int.natCast_pos.mpr (decodeBits_den_pos f _)

/-- a returned Decimal `c·10^-k` is a nearest 18-digit decimal of the float's exact value `num/den`, the even one on a tie,
    and carries no trailing fractional zero -/
theorem from_float_nearest (prof : Profile) (f : Spec.FloatFmt) (hf : f = Spec.FloatFmt.f64 ∨ f = Spec.FloatFmt.f32)
    (bits : Nat) (hb : bits < 2 ^ f.bits) (hfin : (bits >>> f.fracBits) % 2 ^ f.expBits ≠ 2 ^ f.expBits - 1)
    (d : Dec) (h : tryFromFloat prof f bits = .ok (.ok d)) :
    d.nfrac ≤ 18 ∧
    2 * ((d.coeff * 10 ^ (18 - d.nfrac) * exactDen f bits - exactNum f bits * 10 ^ 18).natAbs : Int) ≤ exactDen f bits ∧
    (2 * ((d.coeff * 10 ^ (18 - d.nfrac) * exactDen f bits - exactNum f bits * 10 ^ 18).natAbs : Int) = exactDen f bits →
      (d.coeff * 10 ^ (18 - d.nfrac)) % 2 = 0) ∧
    (d.nfrac > 0 → d.coeff % 10 ≠ 0) := by
  have hv := from_float_value prof f hf bits hb hfin d h
  obtain ⟨n1, n2, n3⟩ := normalizeSpec_value 19 (Spec.specRound .heven (exactNum f bits * 10 ^ 18) (exactDen f bits)) 18 (by decide)
  rw [← hv] at n1 n2 n3
  simp only [] at n1 n2 n3
  obtain ⟨r1, r2⟩ := heven_nearest (exactNum f bits * 10 ^ 18) (exactDen f bits) (exactDen_pos f bits)
  rw [← n2] at r1 r2
  exact ⟨n1, r1, r2, n3⟩

/-- A float with an integral value converts to exactly that integer, with no fractional digits.  `exactNum / exactDen` is not in
    lowest terms: `1.0f64` is `2^52 / 2^52`, and `exactDen = 1` from `2^52` on only. -/
theorem from_float_integral_dvd (prof : Profile) (f : Spec.FloatFmt) (hf : f = Spec.FloatFmt.f64 ∨ f = Spec.FloatFmt.f32)
    (bits : Nat) (hb : bits < 2 ^ f.bits) (hfin : (bits >>> f.fracBits) % 2 ^ f.expBits ≠ 2 ^ f.expBits - 1)
    (hint : exactDen f bits ∣ exactNum f bits) (d : Dec) (h : tryFromFloat prof f bits = .ok (.ok d)) :
    d = ⟨exactNum f bits / exactDen f bits, 0⟩ := by
  rw [tryFromFloat_eq_spec prof f hf bits hb, fromFloat_finite f bits hfin, specOf_dvd _ _ (exactDen_pos f bits) hint] at h
  exact (toResult_expOf_eq_ok h).2

/-- the floats whose denominator is one as it stands: magnitude `2^52` (`2^23`) and above -/
theorem from_float_integral_exact (prof : Profile) (f : Spec.FloatFmt) (hf : f = Spec.FloatFmt.f64 ∨ f = Spec.FloatFmt.f32)
    (bits : Nat) (hb : bits < 2 ^ f.bits) (hfin : (bits >>> f.fracBits) % 2 ^ f.expBits ≠ 2 ^ f.expBits - 1)
    (hint : exactDen f bits = 1) (d : Dec) (h : tryFromFloat prof f bits = .ok (.ok d)) :
    d = ⟨exactNum f bits, 0⟩ := by
  have := from_float_integral_dvd prof f hf bits hb hfin (hint ▸ Int.one_dvd _) d h
  rwa [hint, Int.ediv_one] at this

/-- `from_float_integral_exact` in terms of the value -/
theorem from_float_integral (prof : Profile) (f : Spec.FloatFmt) (hf : f = Spec.FloatFmt.f64 ∨ f = Spec.FloatFmt.f32)
    (bits : Nat) (hb : bits < 2 ^ f.bits) (hfin : (bits >>> f.fracBits) % 2 ^ f.expBits ≠ 2 ^ f.expBits - 1)
    (hint : exactDen f bits = 1) (d : Dec) (h : tryFromFloat prof f bits = .ok (.ok d)) :
    d.coeff * 10 ^ (18 - d.nfrac) = exactNum f bits * 10 ^ 18 := by
  rw [from_float_integral_exact prof f hf bits hb hfin hint d h]; rfl

/-! ### non-vacuity -/
-- 0.1f64 → 0.1000000000000000055511151231257827… rounded to 18 digits
example : tryFromFloat Profile.dev .f64 4591870180066957722 = .ok (.ok ⟨100000000000000006, 18⟩) := by decide +kernel
-- 2^127 as f64: InternalOverflow;  +inf: InfiniteValue
example : tryFromFloat Profile.release .f64 (1150 * 2 ^ 52) = .ok (.error .overflow) := by decide +kernel
example : tryFromFloat Profile.dev .f32 (255 * 2 ^ 23) = .ok (.error .infinite) := by decide +kernel

/-! ### translated kernels
The Lean definitions `Gen.K.*` are regenerated from the Rust source on every run by `tools/fpkernels.py` (expression-level
translation).  These theorems tie them to the hand-written model the property theorems above are about: a change of the Rust
kernel that changes its translation breaks them. -/
theorem kernel_normalize (prof : Profile) (c : Int) (n : Nat) (hn : n < 256) :
    Gen.K.normalize prof c n = .ok (normalize c n) := Kernels.normalize_eq prof c n hn
theorem kernel_approx_rational (prof : Profile) (a d : Int) :
    Gen.K.approx_rational prof a d = approxRational prof a d := Kernels.approx_rational_eq prof a d

theorem kernel_f64_decode (prof : Profile) (bits : Nat) (hb : bits < 18446744073709551616) :
    Gen.K.f64_decode prof bits = floatDecode Spec.FloatFmt.f64 bits := Kernels.f64_decode_eq prof bits hb
theorem kernel_f32_decode (prof : Profile) (bits : Nat) (hb : bits < 4294967296) :
    Gen.K.f32_decode prof bits = floatDecode Spec.FloatFmt.f32 bits := Kernels.f32_decode_eq prof bits hb
/-- the whole of `impl TryFrom<f64> for Decimal` / `impl TryFrom<f32> for Decimal`, as translated from the source on this run,
    is the model function the property theorems above are about -/
theorem kernel_try_from_f64 (prof : Profile) (bits : Nat) (hb : bits < 18446744073709551616) :
    Gen.K.try_from_f64 prof bits = Kernels.floatResult <$> tryFromFloat prof Spec.FloatFmt.f64 bits :=
  Kernels.try_from_f64_eq prof bits hb
theorem kernel_try_from_f32 (prof : Profile) (bits : Nat) (hb : bits < 4294967296) :
    Gen.K.try_from_f32 prof bits = Kernels.floatResult <$> tryFromFloat prof Spec.FloatFmt.f32 bits :=
  Kernels.try_from_f32_eq prof bits hb

/-! ### algebraic laws
Sign symmetry of the conversion (flipping the sign bit of the pattern negates the coefficient and keeps the digits), as a corollary
of `try_from_float_spec`: the spec rounds half-even, which is symmetric, and removes the same trailing zeros.  The one asymmetry is
the asymmetry of `i128`: `2^127` overflows while `-2^127` is returned, with the coefficient `i128::MIN` (one below `Decimal::MIN`). -/

/-- the pattern with the sign bit flipped -/
def flipSign (f : Spec.FloatFmt) (bits : Nat) : Nat := bits ^^^ 2 ^ (f.bits - 1)

/-- what the conversions of a pattern and of its flip return: for a finite pattern, whatever `c` or `-c` fits -/
theorem flip_cases (prof : Profile) (f : Spec.FloatFmt) (hf : f = Spec.FloatFmt.f64 ∨ f = Spec.FloatFmt.f32)
    (bits : Nat) (hb : bits < 2 ^ f.bits) :
    (∃ e, e ≠ FloatErr.overflow ∧ tryFromFloat prof f bits = .ok (.error e) ∧
      tryFromFloat prof f (flipSign f bits) = .ok (.error e)) ∨
    ∃ (c : Int) (k : Nat),
      tryFromFloat prof f bits = .ok (if fitsI128 c = true then .ok ⟨c, k⟩ else .error .overflow) ∧
      tryFromFloat prof f (flipSign f bits) = .ok (if fitsI128 (-c) = true then .ok ⟨-c, k⟩ else .error .overflow) := by
  rw [tryFromFloat_eq_spec prof f hf bits hb, tryFromFloat_eq_spec prof f hf (flipSign f bits) (xor_sign_fields f bits hb rfl).1]
  rcases fromFloat_xor_sign f bits hb (rfl : flipSign f bits = _) with ⟨e1, e2⟩ | ⟨c, k, e1, e2⟩
  · rw [e1]
    left
    rcases e2 with e2 | e2 <;> rw [e2]
    · exact ⟨.infinite, by decide, rfl, rfl⟩
    · exact ⟨.nan, by decide, rfl, rfl⟩
  · rw [e1, e2, toResult_expOf, toResult_expOf]
    exact Or.inr ⟨c, k, rfl, rfl⟩

/-- sign symmetry, successful conversions: flipping the sign bit of a pattern that converts to `d` gives the Decimal with the
    opposite coefficient and the same number of fractional digits — in both directions (the flip is an involution); the only
    excluded result is `i128::MIN`, whose opposite is not an `i128` -/
theorem try_from_float_flip_ok (prof : Profile) (f : Spec.FloatFmt) (hf : f = Spec.FloatFmt.f64 ∨ f = Spec.FloatFmt.f32)
    (bits : Nat) (hb : bits < 2 ^ f.bits) (d : Dec) (h : tryFromFloat prof f bits = .ok (.ok d)) (hmin : d.coeff ≠ I128_MIN) :
    tryFromFloat prof f (flipSign f bits) = .ok (.ok ⟨-d.coeff, d.nfrac⟩) := by
  rcases flip_cases prof f hf bits hb with ⟨e, _, h1, _⟩ | ⟨c, k, h1, h2⟩ <;> rw [h1] at h
  · injection h with h; cases h
  · rw [h2]
    split at h
    · rename_i hfit
      injection h with h; injection h with h; subst h
      rw [fitsI128_iff] at hfit
      rw [if_pos (by rw [fitsI128_iff]; unfold I128_MIN I128_MAX at *; simp only at hmin; omega)]
    · injection h with h; cases h

/-- sign symmetry, `InfiniteValue` / `NotANumber`: the error kind does not depend on the sign bit -/
theorem try_from_float_flip_nonfinite (prof : Profile) (f : Spec.FloatFmt) (hf : f = Spec.FloatFmt.f64 ∨ f = Spec.FloatFmt.f32)
    (bits : Nat) (hb : bits < 2 ^ f.bits) (e : FloatErr) (he : e ≠ .overflow) (h : tryFromFloat prof f bits = .ok (.error e)) :
    tryFromFloat prof f (flipSign f bits) = .ok (.error e) := by
  rcases flip_cases prof f hf bits hb with ⟨e', _, h1, h2⟩ | ⟨c, k, h1, _⟩ <;> rw [h1] at h
  · injection h with h; injection h with h; rw [← h]; exact h2
  · split at h <;> injection h with h
    · cases h
    · injection h with h; exact absurd h.symm he

/-- sign symmetry, `InternalOverflow`: the flipped pattern overflows too — except that the opposite of an overflowing `2^127` is
    `i128::MIN`, which the conversion does return (see the example below: the law "the error kind is unchanged" is false there) -/
theorem try_from_float_flip_overflow (prof : Profile) (f : Spec.FloatFmt) (hf : f = Spec.FloatFmt.f64 ∨ f = Spec.FloatFmt.f32)
    (bits : Nat) (hb : bits < 2 ^ f.bits) (h : tryFromFloat prof f bits = .ok (.error .overflow)) :
    tryFromFloat prof f (flipSign f bits) = .ok (.error .overflow) ∨
    ∃ k, tryFromFloat prof f (flipSign f bits) = .ok (.ok ⟨I128_MIN, k⟩) := by
  rcases flip_cases prof f hf bits hb with ⟨e, he, h1, _⟩ | ⟨c, k, h1, h2⟩ <;> rw [h1] at h
  · injection h with h; injection h with h; exact absurd h he
  · rw [h2]
    split at h
    · injection h with h; cases h
    · rename_i hfit
      -- `c` does not fit; `-c` fits only if it is `i128::MIN`
      by_cases hc : fitsI128 (-c) = true
      · right
        rw [if_pos hc]
        rw [fitsI128_iff] at hc hfit
        exact ⟨k, by rw [show -c = I128_MIN by unfold I128_MIN I128_MAX at *; omega]⟩
      · left; rw [if_neg hc]

theorem flipSign_flipSign (f : Spec.FloatFmt) (bits : Nat) : flipSign f (flipSign f bits) = bits :=
  xor_xor_cancel bits _

-- 1.5 and -1.5; 0.1f32 and -0.1f32; +inf and -inf
example : tryFromFloat Profile.dev .f64 0x3FF8000000000000 = .ok (.ok ⟨15, 1⟩) ∧
    tryFromFloat Profile.dev .f64 (flipSign .f64 0x3FF8000000000000) = .ok (.ok ⟨-15, 1⟩) ∧
    flipSign .f64 0x3FF8000000000000 = 0xBFF8000000000000 ∧
    tryFromFloat Profile.dev .f32 (flipSign .f32 (255 * 2 ^ 23)) = .ok (.error .infinite) := by decide +kernel
-- COUNTER-EXAMPLE to "the error kind is unchanged": `2^127` overflows, `-2^127` comes back as the coefficient `i128::MIN`
-- (both formats, both profiles)
example : tryFromFloat Profile.dev .f64 (1150 * 2 ^ 52) = .ok (.error .overflow) ∧
    tryFromFloat Profile.dev .f64 (flipSign .f64 (1150 * 2 ^ 52)) = .ok (.ok ⟨I128_MIN, 0⟩) ∧
    tryFromFloat Profile.release .f32 (254 * 2 ^ 23) = .ok (.error .overflow) ∧
    tryFromFloat Profile.release .f32 (flipSign .f32 (254 * 2 ^ 23)) = .ok (.ok ⟨I128_MIN, 0⟩) := by decide +kernel

-- the powers of two 2^0, 2^52, 2^53 (the limit of the contiguous integers of an f64), 2^53 + 2, -2^53 and 2^126
example : tryFromFloat Profile.dev .f64 (1023 * 2 ^ 52) = .ok (.ok ⟨1, 0⟩) ∧
    tryFromFloat Profile.dev .f64 (1075 * 2 ^ 52) = .ok (.ok ⟨2 ^ 52, 0⟩) ∧
    tryFromFloat Profile.dev .f64 (1076 * 2 ^ 52) = .ok (.ok ⟨2 ^ 53, 0⟩) ∧
    tryFromFloat Profile.dev .f64 (1076 * 2 ^ 52 + 1) = .ok (.ok ⟨2 ^ 53 + 2, 0⟩) ∧
    tryFromFloat Profile.release .f64 (flipSign .f64 (1076 * 2 ^ 52)) = .ok (.ok ⟨-2 ^ 53, 0⟩) ∧
    tryFromFloat Profile.release .f64 (1149 * 2 ^ 52) = .ok (.ok ⟨2 ^ 126, 0⟩) ∧
    exactDen .f64 (1076 * 2 ^ 52) = 1 ∧ exactNum .f64 (1076 * 2 ^ 52) = 2 ^ 53 := by decide +kernel

end Fpdec.Props.C13
