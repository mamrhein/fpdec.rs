import Fpdec.Kernels.MulDiv
import Fpdec.Kernels.Forward
import Fpdec.Props.C01
import Fpdec.Props.C03
import Fpdec.Props.C16
import Fpdec.Props.C08
import Fpdec.Props.C10
import Fpdec.Props.C17_Sites

/-!
# C17 — All operand forms of an operator compute the same function

Two kinds of "forms":

1. **by-value / by-reference / compound assignment.**  These impls are generated by four forwarding macros
   (`forward_ref_binop!`, `forward_ref_binop_rounded!`, `forward_ref_binop_decimal_int!`, `forward_op_assign!` in
   `src/binops/mod.rs`) and by the explicit forwarding impls in `div_rounded.rs`; each body is the base call with `*`-derefs.  The
   model has ONE function per base impl; the tie is (a) the site skeleton of every binops file, which also records every
   macro definition and invocation in order (`tie_sites_*` in `C17_Sites.lean`: re-read from the source on every run), (b) the
   macro bodies and the hand-written reference forms of `div_rounded` as translated from the source: each is the by-value form on
   the dereferenced operands (`kernel_forward_ref_binop*`, `kernel_div_rounded_ref_forms`), and (c) the correspondence run, which
   calls every generated impl (op × 9 integer types × 2 positions × 4/5 reference forms) at least once.
2. **integer operand vs `Decimal::from(i)`.**  The integer-operand bodies are written separately from the Decimal bodies:
   * `+`, `-`, `checked_add`, `checked_sub`: `add_sub_int_eq`, `checked_add_sub_int_eq` — literally the same outcome including the
     fractional digit count.
   * `/`, `%`, `checked_div`, `checked_rem`, `div_rounded`, `==`, `<`: both shapes are proved to satisfy the SAME
     expectation (`Spec.div … i 0`, …) in C03 / C04 / C08 / C10 — behind the zero-divisor test the integer bodies of `/`, `%`,
     `div_rounded` run the Decimal body on `Decimal::from(i)` (`C03.checkedDiv_fromInt_left/right`, `remDecDec_fromInt`,
     `remDecDec_fromInt_left`, `C04.divRounded_fromInt_*`); `same_expectation_*` below put the two facts side by side (for `%`
     with the integer on the right only).  An
     expectation other than `valOrOvf`/`any` determines value-or-panic uniquely (`determined`).  `quantize` by an integer is not
     compared with the Decimal shape: its expectation forms the product as `Decimal * int` does (`Spec.quantize … true`, C04).
   * `*`: `mul_int_vs_decimal` — same value whenever both return one; the integer form signals overflow whenever the Decimal form
     does.  The converse fails where the Decimal form short-cuts an operand equal to one; that it fails nowhere else is not
     stated here (it follows from `mul_fromInt`).
Open finding D8 (int/int `div_rounded` with `n > 18`) is the one place where the integer form is known to differ (C04).
-/

namespace Fpdec.Props.C17
open Fpdec Fpdec.Model

/-- `Decimal ± int` / `int ± Decimal` is literally `Decimal ± Decimal::from(int)` (value, digit count, panic) -/
theorem add_sub_int_eq (sub intLeft : Bool) (d : Dec) (i : Int) :
    addSubInt sub intLeft d i = if intLeft then addSub sub ⟨i, 0⟩ d else addSub sub d ⟨i, 0⟩ :=
  C01.addSubInt_eq sub intLeft d i

theorem checked_add_sub_int_eq (sub intLeft : Bool) (d : Dec) (i : Int) :
    checkedAddSubInt sub intLeft d i = if intLeft then checkedAddSub sub ⟨i, 0⟩ d else checkedAddSub sub d ⟨i, 0⟩ :=
  C01.checkedAddSubInt_eq sub intLeft d i

/-- an expectation that leaves no choice -/
def Determined : Spec.Exp → Prop
  | .valOrOvf _ _ => False
  | .any => False
  | _ => True

/-- same observable outcome: the same value, or both panic -/
def SameObs (r1 r2 : Outcome (Int × Nat)) : Prop :=
  match r1, r2 with
  | .ok a, .ok b => a = b
  | .panic _, .panic _ => True
  | _, _ => False

theorem determined (e : Spec.Exp) (he : Determined e) (r1 r2 : Outcome (Int × Nat))
    (h1 : Spec.allowedOp e r1 = true) (h2 : Spec.allowedOp e r2 = true) : SameObs r1 r2 := by
  cases e <;> first | exact he.elim | skip
  all_goals rcases r1 with a | k1 <;> rcases r2 with b | k2 <;>
    first | exact (Bool.false_ne_true h1).elim | exact (Bool.false_ne_true h2).elim | trivial | skip
  exact (eq_of_beq h1).trans (eq_of_beq h2).symm

/-- the one outcome that a determined expectation allows to a checked form -/
def theChecked : Spec.Exp → Outcome (Option (Int × Nat))
  | .val c p => .ok (some (c, p))
  | _ => .ok none

theorem eq_theChecked {e : Spec.Exp} {r : Outcome (Option (Int × Nat))} (he : Determined e) (hn : e ≠ .nfrac)
    (h : Spec.allowedChecked e r = true) : r = theChecked e := by
  cases e <;> first | exact he.elim | exact (hn rfl).elim | skip
  all_goals rcases r with (_ | v) | k <;> first | rfl | exact (Bool.false_ne_true h).elim | skip
  exact congrArg (fun v => Outcome.ok (some v)) (eq_of_beq h)

theorem determined_checked (e : Spec.Exp) (he : Determined e) (hn : e ≠ .nfrac) (r1 r2 : Outcome (Option (Int × Nat)))
    (h1 : Spec.allowedChecked e r1 = true) (h2 : Spec.allowedChecked e r2 = true) : r1 = r2 :=
  (eq_theChecked he hn h1).trans (eq_theChecked he hn h2).symm

/-- `Decimal / int` against `Decimal / Decimal::from(int)`: one expectation for both (`i ≠ 0`); `i` any i128, `i128::MIN` included -/
theorem same_expectation_div (prof : Profile) (tm : Mode) (x : Dec) (i : Int) (hx : Dom x)
    (hi : I128_MIN ≤ i ∧ i ≤ I128_MAX) (hi0 : i ≠ 0) :
    Spec.allowedChecked (Spec.div tm x.coeff x.nfrac i 0) (outOptPair (divDecInt prof tm x i)) = true ∧
    Spec.allowedChecked (Spec.div tm x.coeff x.nfrac i 0) (outOptPair (checkedDiv prof tm x ⟨i, 0⟩)) = true := by
  have h := C03.div_dec_int_spec C16.wide_div prof tm x i hx hi hi0
  exact ⟨h, by rw [C03.checkedDiv_fromInt_right prof tm x i hi0]; exact h⟩

/-- `int / Decimal` against `Decimal::from(int) / Decimal`; `i` any i128, `i128::MIN` included -/
theorem same_expectation_div_left (prof : Profile) (tm : Mode) (i : Int) (y : Dec) (hy : Dom y)
    (hi : I128_MIN ≤ i ∧ i ≤ I128_MAX) (hy0 : y.coeff ≠ 0) :
    Spec.allowedChecked (Spec.div tm i 0 y.coeff y.nfrac) (outOptPair (divIntDec prof tm i y)) = true ∧
    Spec.allowedChecked (Spec.div tm i 0 y.coeff y.nfrac) (outOptPair (checkedDiv prof tm ⟨i, 0⟩ y)) = true := by
  have h := C03.div_int_dec_spec C16.wide_div prof tm i y hy hi hy0
  exact ⟨h, by rw [C03.checkedDiv_fromInt_left prof tm i y hy0]; exact h⟩

/-- `div_rounded`: the guarded integer shapes against the Decimal shape -/
theorem same_expectation_div_rounded (prof : Profile) (tm : Mode) (x : Dec) (i : Int) (n : Nat) (hx : Dom x)
    (hi : I128_MIN ≤ i ∧ i ≤ I128_MAX) :
    Spec.allowedOp (Spec.divRounded tm x.coeff x.nfrac i 0 n) (outPair (divRoundedDecInt prof tm x i n)) = true ∧
    Spec.allowedOp (Spec.divRounded tm x.coeff x.nfrac i 0 n) (outPair (divRounded prof tm x ⟨i, 0⟩ n)) = true := by
  have h := C04.div_rounded_dec_int_spec C16.wide_div prof tm x i n hx hi
  exact ⟨h, by rw [C04.divRounded_fromInt_right prof tm x i n]; exact h⟩

theorem same_expectation_div_rounded_left (prof : Profile) (tm : Mode) (i : Int) (y : Dec) (n : Nat)
    (hy : Dom y) (hi : I128_MIN ≤ i ∧ i ≤ I128_MAX) :
    Spec.allowedOp (Spec.divRounded tm i 0 y.coeff y.nfrac n) (outPair (divRoundedIntDec prof tm i y n)) = true ∧
    Spec.allowedOp (Spec.divRounded tm i 0 y.coeff y.nfrac n) (outPair (divRounded prof tm ⟨i, 0⟩ y n)) = true := by
  have h := C04.div_rounded_int_dec_spec C16.wide_div prof tm i y n hy hi
  exact ⟨h, by rw [C04.divRounded_fromInt_left prof tm i y n]; exact h⟩

theorem same_expectation_rem (x : Dec) (i : Int) (hx : Dom x) (hi : I128_MIN ≤ i ∧ i ≤ I128_MAX) (hi0 : i ≠ 0) :
    Spec.allowedChecked (Spec.rem x.coeff x.nfrac i 0) (outOptPair (remDecInt x i)) = true ∧
    Spec.allowedChecked (Spec.rem x.coeff x.nfrac i 0)
      (outOptPair (checkedOfChecked (eqZero (⟨i, 0⟩ : Dec)) (if eqZero (⟨i, 0⟩ : Dec) then .ok none else remDecDec x ⟨i, 0⟩))) = true := by
  have h := C10.rem_dec_int_spec x i hx hi hi0
  refine ⟨h, ?_⟩
  rw [(eqZero_eq_false_iff ⟨i, 0⟩).mpr hi0, remDecDec_fromInt]
  exact h

/-- `==` and `<` with an integer: the comparison of the values, like for `Decimal::from(i)` — for every value of the integer type,
    `i128::MIN` included (`Decimal::from(i128::MIN)` is outside `Dom`, but the comparisons do not care: `partialCmp_spec_full`) -/
theorem same_cmp (signed : Bool) (d : Dec) (i : Int) (hd : Dom d) (hi : IntOperand signed i) :
    partialCmpDecInt signed d i = partialCmp d ⟨i, 0⟩ ∧ decEqInt signed d i = decimalEq d ⟨i, 0⟩ ∧
    partialCmpIntDec signed i d = partialCmp ⟨i, 0⟩ d := by
  have hi2 := domI_fromInt (intOperand_range hi)
  refine ⟨?_, ?_, ?_⟩
  · rw [C08.cmp_dec_int_spec signed d i hd hi, partialCmp_spec_full d ⟨i, 0⟩ hd.domI hi2]
  · rw [C08.eq_int_spec signed d i hd hi, decimalEq_spec_full d ⟨i, 0⟩ hd.domI hi2]
  · rw [C08.cmp_int_dec_spec signed i d hd hi, partialCmp_spec_full ⟨i, 0⟩ d hi2 hd.domI]

/-- `d * Decimal::from(i)`: after the three short cuts it is literally `d * i` (nothing is rounded: `p + 0 ≤ 18`) -/
theorem mul_fromInt (prof : Profile) (tm : Mode) (d : Dec) (i : Int) (hp : d.nfrac ≤ 18) :
    mul prof tm d ⟨i, 0⟩ =
      if d.coeff = 0 ∨ i = 0 then .ok Dec.ZERO else if i = 1 then .ok d
      else if d.coeff = (10 : Int) ^ d.nfrac then .ok ⟨i, 0⟩ else mulInt d i := by
  rw [C02.mul_eq prof tm d ⟨i, 0⟩ hp (Nat.zero_le _), C02.checkedMulRounded_exact prof tm d ⟨i, 0⟩ 18 hp (by simp only; omega),
    C02.mul_int_eq_checked]
  rfl

/-- multiplication: the documented exception -/
theorem mul_int_vs_decimal (prof : Profile) (tm : Mode) (d : Dec) (i : Int) (hd : Dom d)
    (hi : I128_MIN < i ∧ i ≤ I128_MAX) :
    -- (1) both return a value ⇒ equal values
    (∀ r1 r2, mulInt d i = .ok r1 → mul prof tm d ⟨i, 0⟩ = .ok r2 →
        Spec.cmp r1.coeff r1.nfrac r2.coeff r2.nfrac = .eq) ∧
    -- (2) the Decimal form panics ⇒ the integer form panics
    (∀ k, mul prof tm d ⟨i, 0⟩ = .panic k → ∃ k', mulInt d i = .panic k') := by
  rw [mul_fromInt prof tm d i hd.2.2]
  constructor
  · intro r1 r2 e1 e2
    obtain ⟨-, rfl⟩ := ok_of_allowed_ite (e1 ▸ C02.mul_int_spec d i)
    rw [C08.value_order_eq_iff]
    split at e2
    · next h0 => cases Outcome.ok.inj e2; rcases h0 with h0 | h0 <;> simp [Dec.ZERO, h0]
    split at e2
    · next h1 => cases Outcome.ok.inj e2; simp [h1]
    split at e2
    · next h2 => cases Outcome.ok.inj e2; simp [h2, Int.mul_comm]
    · rw [e1] at e2; cases Outcome.ok.inj e2; rfl
  · intro k e2
    split at e2; · cases e2
    split at e2; · cases e2
    split at e2; · cases e2
    exact ⟨k, e2⟩

/-! ### non-vacuity: the integer `i128::MIN` as dividend and in comparisons -/
example : divIntDec Profile.dev .heven I128_MIN ⟨-10000000000000000000, 0⟩ = checkedDiv Profile.dev .heven ⟨I128_MIN, 0⟩ ⟨-10000000000000000000, 0⟩ ∧
    divIntDec Profile.dev .heven I128_MIN ⟨-10000000000000000000, 0⟩ = .ok (some ⟨17014118346046923173168730371588410573, 18⟩) := by decide +kernel
example : divRoundedIntDec Profile.release .heven I128_MIN ⟨-1, 0⟩ 0 = divRounded Profile.release .heven ⟨I128_MIN, 0⟩ ⟨-1, 0⟩ 0 ∧
    divRoundedIntDec Profile.release .heven I128_MIN ⟨-1, 0⟩ 0 = .panic .arith ∧
    divRoundedIntDec Profile.release .heven I128_MIN ⟨-3, 0⟩ 0 = .ok ⟨56713727820156410577229101238628035243, 0⟩ := by decide +kernel
example : divDecInt Profile.dev .heven ⟨1, 0⟩ I128_MIN = checkedDiv Profile.dev .heven ⟨1, 0⟩ ⟨I128_MIN, 0⟩ := by decide +kernel
example : partialCmpDecInt true ⟨-17, 1⟩ I128_MIN = some .gt ∧ partialCmp ⟨-17, 1⟩ ⟨I128_MIN, 0⟩ = some .gt ∧
    partialCmpIntDec true I128_MIN ⟨I128_MIN + 1, 0⟩ = some .lt ∧ decEqInt true ⟨I128_MIN + 1, 0⟩ I128_MIN = false := by decide +kernel

/-! ### non-vacuity: the documented exception really occurs -/
example : mul Profile.dev .heven ⟨10, 1⟩ ⟨I128_MAX, 0⟩ = .ok ⟨I128_MAX, 0⟩ ∧ mulInt ⟨10, 1⟩ I128_MAX = .panic .overflow := by
  decide

/-! ### translated kernels
The Lean definitions `Gen.K.*` are regenerated from the Rust source on every run by `tools/fpkernels.py` (expression-level
translation).  These theorems tie them to the hand-written model the property theorems above are about: a change of the Rust
kernel that changes its translation breaks them. -/
/-- the forwarding macros of binops/mod.rs: every reference form and the assign form, as translated from the macro text on this
    run, is the by-value operator on the dereferenced operands (hence computes the same function as the by-value form) -/
theorem kernel_forward_ref_binop (prof : Profile) (x y : Dec) :
    Gen.K.ref_add_val prof x y = Gen.K.decimal_add prof x y ∧ Gen.K.val_add_ref prof x y = Gen.K.decimal_add prof x y ∧
    Gen.K.ref_add_ref prof x y = Gen.K.decimal_add prof x y ∧ Gen.K.add_assign prof x y = Gen.K.decimal_add prof x y :=
  ⟨Kernels.ref_add_val_eq prof x y, Kernels.val_add_ref_eq prof x y, Kernels.ref_add_ref_eq prof x y, Kernels.add_assign_eq prof x y⟩
theorem kernel_forward_ref_binop_rounded (prof : Profile) (tm : Mode) (x y : Dec) (n : Nat) :
    Gen.K.ref_mulr_val prof tm x y n = Gen.K.decimal_mul_rounded prof tm x y n ∧
    Gen.K.val_mulr_ref prof tm x y n = Gen.K.decimal_mul_rounded prof tm x y n ∧
    Gen.K.ref_mulr_ref prof tm x y n = Gen.K.decimal_mul_rounded prof tm x y n :=
  ⟨Kernels.ref_mulr_val_eq prof tm x y n, Kernels.val_mulr_ref_eq prof tm x y n, Kernels.ref_mulr_ref_eq prof tm x y n⟩
theorem kernel_forward_ref_binop_decimal_int (prof : Profile) (d : Dec) (i : Int) :
    Gen.K.ref_add_int prof d i = Gen.K.decimal_add_int prof d i ∧ Gen.K.val_add_refint prof d i = Gen.K.decimal_add_int prof d i ∧
    Gen.K.ref_add_refint prof d i = Gen.K.decimal_add_int prof d i ∧ Gen.K.refint_add_val prof i d = Gen.K.int_add_decimal prof i d ∧
    Gen.K.int_add_ref prof i d = Gen.K.int_add_decimal prof i d ∧ Gen.K.refint_add_ref prof i d = Gen.K.int_add_decimal prof i d :=
  ⟨Kernels.ref_add_int_eq prof d i, Kernels.val_add_refint_eq prof d i, Kernels.ref_add_refint_eq prof d i,
   Kernels.refint_add_val_eq prof i d, Kernels.int_add_ref_eq prof i d, Kernels.refint_add_ref_eq prof i d⟩

/-- the integer forms of `*` and `checked_mul` (both operand orders), as translated on this run -/
theorem kernel17_decimal_mul_int (prof : Profile) (d : Dec) (i : Int) : Gen.K.decimal_mul_int prof d i = mulInt d i :=
  Kernels.decimal_mul_int_eq prof d i
theorem kernel17_int_mul_decimal (prof : Profile) (i : Int) (d : Dec) : Gen.K.int_mul_decimal prof i d = mulInt d i :=
  Kernels.int_mul_decimal_eq prof i d
theorem kernel17_decimal_checked_mul_int (prof : Profile) (d : Dec) (i : Int) :
    Gen.K.decimal_checked_mul_int prof d i = .ok (checkedMulInt d i) := Kernels.decimal_checked_mul_int_eq prof d i
theorem kernel17_int_checked_mul_decimal (prof : Profile) (i : Int) (d : Dec) :
    Gen.K.int_checked_mul_decimal prof i d = .ok (checkedMulInt d i) := Kernels.int_checked_mul_decimal_eq prof i d
/-- the integer forms of `/` and `checked_div` (both operand orders), as translated on this run -/
theorem kernel17_decimal_div_int (prof : Profile) (tm : Mode) (d : Dec) (i : Int) (hd : fitsI128 d.coeff = true) (hp : d.nfrac ≤ 38) :
    Gen.K.decimal_div_int prof tm d i = opOfChecked (i = 0) (divDecInt prof tm d i) :=
  Kernels.decimal_div_int_eq prof tm d i hd hp
theorem kernel17_decimal_checked_div_int (prof : Profile) (tm : Mode) (d : Dec) (i : Int) (hd : fitsI128 d.coeff = true)
    (hp : d.nfrac ≤ 38) :
    Gen.K.decimal_checked_div_int prof tm d i = checkedOfChecked (i = 0) (divDecInt prof tm d i) :=
  Kernels.decimal_checked_div_int_eq prof tm d i hd hp
theorem kernel17_int_div_decimal (prof : Profile) (tm : Mode) (i : Int) (d : Dec) (hi : fitsI128 i = true) :
    Gen.K.int_div_decimal prof tm i d = opOfChecked (eqZero d) (divIntDec prof tm i d) :=
  Kernels.int_div_decimal_eq prof tm i d hi
theorem kernel17_int_checked_div_decimal (prof : Profile) (tm : Mode) (i : Int) (d : Dec) (hi : fitsI128 i = true) :
    Gen.K.int_checked_div_decimal prof tm i d = checkedOfChecked (eqZero d) (divIntDec prof tm i d) :=
  Kernels.int_checked_div_decimal_eq prof tm i d hi

/-- the integer forms of `div_rounded` (Decimal/int, int/Decimal, int/int), as translated on this run; the int/int body has no
    `n_frac_digits` guard — the open finding D8 is visible in the translation itself -/
theorem kernel17_decimal_div_rounded_int (prof : Profile) (tm : Mode) (d : Dec) (i : Int) (n : Nat) (hd : fitsI128 d.coeff = true)
    (hp : d.nfrac ≤ 38) :
    Gen.K.decimal_div_rounded_int prof tm d i n = divRoundedDecInt prof tm d i n :=
  Kernels.decimal_div_rounded_int_eq prof tm d i n hd hp
theorem kernel17_int_div_rounded_decimal (prof : Profile) (tm : Mode) (i : Int) (d : Dec) (n : Nat) (hi : fitsI128 i = true) :
    Gen.K.int_div_rounded_decimal prof tm i d n = divRoundedIntDec prof tm i d n :=
  Kernels.int_div_rounded_decimal_eq prof tm i d n hi
theorem kernel17_int_div_rounded_int (prof : Profile) (tm : Mode) (i j : Int) (n : Nat) (hi : fitsI128 i = true) :
    Gen.K.int_div_rounded_int prof tm i j n = divRoundedIntInt prof tm i j n :=
  Kernels.int_div_rounded_int_eq prof tm i j n hi

/-- the nine hand-written reference forms of `div_rounded` with an integer operand (src/binops/div_rounded.rs), as translated on this
    run: each is the by-value form on the dereferenced operands -/
theorem kernel_div_rounded_ref_forms (prof : Profile) (tm : Mode) (d : Dec) (i j : Int) (n : Nat) :
    Gen.K.refdec_divr_int prof tm d i n = Gen.K.decimal_div_rounded_int prof tm d i n ∧
    Gen.K.dec_divr_refint prof tm d i n = Gen.K.decimal_div_rounded_int prof tm d i n ∧
    Gen.K.refdec_divr_refint prof tm d i n = Gen.K.decimal_div_rounded_int prof tm d i n ∧
    Gen.K.refint_divr_dec prof tm i d n = Gen.K.int_div_rounded_decimal prof tm i d n ∧
    Gen.K.int_divr_refdec prof tm i d n = Gen.K.int_div_rounded_decimal prof tm i d n ∧
    Gen.K.refint_divr_refdec prof tm i d n = Gen.K.int_div_rounded_decimal prof tm i d n ∧
    Gen.K.refint_divr_int prof tm i j n = Gen.K.int_div_rounded_int prof tm i j n ∧
    Gen.K.int_divr_refint prof tm i j n = Gen.K.int_div_rounded_int prof tm i j n ∧
    Gen.K.refint_divr_refint prof tm i j n = Gen.K.int_div_rounded_int prof tm i j n :=
  ⟨Kernels.refdec_divr_int_eq prof tm d i n, Kernels.dec_divr_refint_eq prof tm d i n, Kernels.refdec_divr_refint_eq prof tm d i n,
   Kernels.refint_divr_dec_eq prof tm i d n, Kernels.int_divr_refdec_eq prof tm i d n, Kernels.refint_divr_refdec_eq prof tm i d n,
   Kernels.refint_divr_int_eq prof tm i j n, Kernels.int_divr_refint_eq prof tm i j n, Kernels.refint_divr_refint_eq prof tm i j n⟩
/-- `int == Decimal` (macro `impl_int_eq_decimal`, instantiated with `i64`) is `Decimal == int` with the operands exchanged -/
theorem kernel_int_eq_decimal (prof : Profile) (i : Int) (d : Dec) :
    Gen.K.sint_eq_decimal prof i d = .ok (decEqInt true d i) := Kernels.sint_eq_decimal_eq prof i d

end Fpdec.Props.C17
