import Fpdec.Kernels.Lib
import Fpdec.Kernels.Misc
import Fpdec.Kernels.FromStr
import Fpdec.Kernels.Parse
import Fpdec.Lemmas.Parse
import Fpdec.Props.C06_Sites

/-!
# C06 — Parsing accepts exactly the literal grammar and never yields a wrong value

`from_str_spec`: for EVERY byte string shorter than 2^56 bytes, `Decimal::from_str` (same function behind
`TryFrom<&str>` / `TryFrom<String>`) returns `Ok(d)` exactly when the reference parser `Spec.parseSpec` — one character at a
time, unbounded integers, representability decided at the end — accepts, and then `d` has precisely the literal's digits as
coefficient (followed by `exponent − fraction length` zeros when that is positive) and `max(0, fraction length − exponent)`
fractional digits; every other string gives `Err`, `Empty` only for the empty string; no panic, in any build profile.  Ingredients (all proved, no `bv_decide`): the two SWAR tricks
(`swar_digit_test`, `swar_to_u64`), the saturating accumulation (`accum_coeff_spec`), exponent saturation never changing the verdict.

Domain restriction: `s.length < 2^56`.  The exponent accumulator saturates at `isize::MAX / 100`; a literal whose *fraction*
had more digits than that could compensate a saturated exponent.  Such a string (> 64 PiB) cannot exist in an address space.
Not modelled: the `unsafe` slice operations are represented by the pattern matches that dominate them (`first()` returned
`Some`, `len() >= 8`), so out-of-bounds reads are excluded by construction of the model and by the correspondence run (which
would crash or diverge), not by a theorem about pointers.
-/

namespace Fpdec.Props.C06
open Fpdec Fpdec.Model

theorem swar_digit_test (bs : List Nat) (hlen : bs.length = 8) (hb : ∀ c ∈ bs, c < 256) :
    chunkContains8Digits (leBytes bs) = true ↔ ∀ c ∈ bs, Spec.isDig c = true :=
  chunkContains8Digits_iff bs hlen hb

theorem swar_to_u64 (bs : List Nat) (hlen : bs.length = 8) (hd : ∀ c ∈ bs, Spec.isDig c = true) :
    chunkToU64 (leBytes bs) = Spec.digitsVal bs :=
  chunkToU64_val bs hlen hd

theorem accum_coeff_spec (c : Nat) (s : List Nat) (hb : ∀ x ∈ s, x < 256) (hc : c < U128_MOD) :
    accumCoeff c s =
      (Nat.min (c * 10 ^ (Spec.spanDigits s).1.length + Spec.digitsVal (Spec.spanDigits s).1) (U128_MOD - 1),
       (Spec.spanDigits s).2, (Spec.spanDigits s).1.length) :=
  accumCoeff_spec c s hb hc

theorem from_str_spec (prof : Profile) (s : List Nat) (hb : ∀ c ∈ s, c < 256) (hlen : s.length < 2 ^ 56) :
    match Spec.parseSpec s, fromStr prof s with
    | .ok c p, .ok (.ok d) => d = ⟨c, p⟩
    | .empty, .ok (.error e) => e = ParseErr.empty
    | .bad, .ok (.error e) => e ≠ ParseErr.empty
    | _, _ => False :=
  fromStr_spec prof s hb hlen

theorem from_str_never_panics (prof : Profile) (s : List Nat) (hb : ∀ c ∈ s, c < 256) (hlen : s.length < 2 ^ 56) :
    ∃ r, fromStr prof s = .ok r :=
  let ⟨x, hx, _⟩ := ParseAux.fromStr_agree prof s hb hlen
  ⟨x, hx⟩

/-! ### non-vacuity: a literal of the kind the defects D1–D5 were found on -/
example : Spec.parseSpec [49, 101, 48, 48, 49] = .ok 10 0 ∧ fromStr Profile.dev [49, 101, 48, 48, 49] = .ok (.ok ⟨10, 0⟩) := by
  decide   -- "1e001"

/-! ### translated kernels
The Lean definitions `Gen.K.*` are regenerated from the Rust source on every run by `tools/fpkernels.py` (expression-level
translation).  These theorems tie them to the hand-written model the property theorems above are about: a change of the Rust
kernel that changes its translation breaks them. -/
theorem kernel_chunk_contains_8_digits (prof : Profile) (c : Nat) :
    Gen.K.chunk_contains_8_digits prof c = .ok (chunkContains8Digits c) := Kernels.chunk_contains_8_digits_eq prof c
theorem kernel_chunk_to_u64 (prof : Profile) (c : Nat) :
    Gen.K.chunk_to_u64 prof c = .ok (chunkToU64 c) := Kernels.chunk_to_u64_eq prof c

/-- `impl FromStr for Decimal` (everything after the parser call), as translated on this run -/
theorem kernel_decimal_from_str (prof : Profile) (lit : List Nat) : Gen.K.decimal_from_str prof lit = fromStr prof lit :=
  Kernels.decimal_from_str_eq prof lit

/-- the parser itself (`fpdec-core/src/parser.rs`: cursor methods, `skip_leading_zeroes`, `accum_coeff`, `accum_exp` — `while` and
    `while let` loops as fuel-bounded recursion — and `str_to_dec`), as translated on this run; the only hypothesis is Rust's own
    bound on the length of a slice -/
theorem kernel_lit_skip_leading_zeroes (prof : Profile) (s : List Nat) (h : s.length < 2 ^ 64) :
    Gen.K.lit_skip_leading_zeroes prof s = .ok (skipLeadingZeroes s) := Kernels.lit_skip_leading_zeroes_eq prof s h
theorem kernel_lit_accum_coeff (prof : Profile) (s : List Nat) (coeff : Nat) (h : s.length < 2 ^ 64) :
    Gen.K.lit_accum_coeff prof s coeff = .ok ((accumCoeff coeff s).2.1, (accumCoeff coeff s).1, (accumCoeff coeff s).2.2) :=
  Kernels.lit_accum_coeff_eq prof s coeff h
theorem kernel_lit_accum_exp (prof : Profile) (s : List Nat) (exp : Int) (h : s.length < 2 ^ 64) :
    Gen.K.lit_accum_exp prof s exp = .ok ((accumExp exp s).2, (accumExp exp s).1, s.length - (accumExp exp s).2.length) :=
  Kernels.lit_accum_exp_eq prof s exp h
theorem kernel_str_to_dec (prof : Profile) (lit : List Nat) (h : lit.length < 2 ^ 63) :
    Gen.K.str_to_dec prof lit = strToDec prof lit := Kernels.str_to_dec_eq prof lit h

/-- `TryFrom<&str>` / `TryFrom<String>` forward to `from_str` -/
theorem kernel_decimal_try_from_str (prof : Profile) (lit : List Nat) :
    Gen.K.decimal_try_from_str prof lit = fromStr prof lit := Kernels.decimal_try_from_str_eq prof lit
theorem kernel_decimal_try_from_string (prof : Profile) (lit : List Nat) :
    Gen.K.decimal_try_from_string prof lit = fromStr prof lit := Kernels.decimal_try_from_string_eq prof lit

/-- the associated constants of `Decimal` as extracted from src/lib.rs on this run are the model's (`ZERO`/`ONE` are what the
    translated kernels return for `Self::ZERO` / `Self::ONE`; `MIN ..= MAX` with at most `DELTA`'s digits is the domain `Dom`) -/
theorem decimal_consts :
    Gen.DECIMAL_CONSTS =
      [("ZERO", Dec.ZERO.coeff, Dec.ZERO.nfrac), ("ONE", Dec.ONE.coeff, Dec.ONE.nfrac),
       ("NEG_ONE", Dec.NEG_ONE.coeff, Dec.NEG_ONE.nfrac), ("TWO", Dec.TWO.coeff, Dec.TWO.nfrac),
       ("TEN", Dec.TEN.coeff, Dec.TEN.nfrac), ("MAX", Dec.MAX.coeff, Dec.MAX.nfrac), ("MIN", Dec.MIN.coeff, Dec.MIN.nfrac),
       ("DELTA", Dec.DELTA.coeff, Dec.DELTA.nfrac)] := Kernels.decimal_consts_tie
theorem dom_is_min_max (d : Dec) :
    (Dec.MIN.coeff ≤ d.coeff ∧ d.coeff ≤ Dec.MAX.coeff ∧ d.nfrac ≤ Dec.DELTA.nfrac) ↔ Dom d := Kernels.dom_is_min_max d

/-! ### algebraic laws
Laws of the parser, proved on the reference grammar `Spec.parseSpec` and transferred with `from_str_spec` in its three `iff` forms
(`fromStr_ok_iff`, `fromStr_err_iff`, `fromStr_empty_iff` of Lemmas/Parse.lean; so: for every literal shorter than 2^56 bytes, every
profile).  `from_str_spec` fixes the result up to the *kind* of a non-`Empty` error, hence laws that
are transferred say "same value / both rejected / both `Empty`" (`SameVerdict`); `from_str_plus` is proved on the model and is a plain
equation. -/

def SameVerdict (prof : Profile) (s t : List Nat) : Prop :=
  (∀ d, fromStr prof s = .ok (.ok d) ↔ fromStr prof t = .ok (.ok d)) ∧
  ((∃ e, fromStr prof s = .ok (.error e)) ↔ (∃ e, fromStr prof t = .ok (.error e))) ∧
  (fromStr prof s = .ok (.error .empty) ↔ fromStr prof t = .ok (.error .empty))

theorem sameVerdict_of_parseSpec_eq (prof : Profile) (s t : List Nat)
    (hbs : ∀ c ∈ s, c < 256) (hls : s.length < 2 ^ 56) (hbt : ∀ c ∈ t, c < 256) (hlt : t.length < 2 ^ 56)
    (h : Spec.parseSpec s = Spec.parseSpec t) : SameVerdict prof s t := by
  refine ⟨fun d => ?_, ?_, ?_⟩
  · rw [fromStr_ok_iff prof s hbs hls, fromStr_ok_iff prof t hbt hlt, h]
  · rw [fromStr_err_iff prof s hbs hls, fromStr_err_iff prof t hbt hlt, h]
  · rw [fromStr_empty_iff prof s hbs hls, fromStr_empty_iff prof t hbt hlt, h]

open Fpdec.ParseAux (negRes optSign_of_isDig parseSpec_eq_empty parseSpec_cons sBody sTail sRest sExp sFrac)

theorem parseSpec_minus_nosign (c : Nat) (s : List Nat) (h45 : c ≠ 45) (h43 : c ≠ 43) :
    Spec.parseSpec (45 :: c :: s) = negRes (Spec.parseSpec (c :: s)) := by
  rw [ParseAux.parseSpec_minus, ParseAux.parseSpec_nosign s h45 h43]

theorem parseSpec_leading_zero (d : Nat) (s : List Nat) (hd : Spec.isDig d = true) :
    Spec.parseSpec (48 :: d :: s) = Spec.parseSpec (d :: s) := by
  have h0 : Spec.isDig 48 = true := by decide
  rw [parseSpec_cons, parseSpec_cons, optSign_of_isDig _ h0, optSign_of_isDig s hd]
  unfold sBody
  rw [ParseAux.span_cons_dig _ _ h0, ParseAux.span_cons_dig _ _ hd]
  exact ParseAux.sTail_zero_cons ..

/-- `e` ↦ `E`, every other byte unchanged -/
def upperE (c : Nat) : Nat := if c = 101 then 69 else c

theorem isDig_upperE (c : Nat) : Spec.isDig (upperE c) = Spec.isDig c := by
  unfold upperE; split
  · subst_vars; decide
  · rfl

theorem upperE_of_isDig (c : Nat) (h : Spec.isDig c = true) : upperE c = c := by
  unfold upperE; split
  · subst_vars; exact absurd h (by decide)
  · rfl

theorem upperE_eq_iff {c k : Nat} (h1 : k ≠ 101) (h2 : k ≠ 69) : upperE c = k ↔ c = k := by
  unfold upperE; split <;> omega

theorem spanDigits_upperE (s : List Nat) :
    Spec.spanDigits (s.map upperE) = ((Spec.spanDigits s).1, (Spec.spanDigits s).2.map upperE) := by
  rw [ParseAux.spanDigits_eq, ParseAux.spanDigits_eq, List.takeWhile_map, List.dropWhile_map,
    show Spec.isDig ∘ upperE = Spec.isDig from funext isDig_upperE,
    List.map_congr_left fun c hc => upperE_of_isDig c (List.all_eq_true.mp List.all_takeWhile c hc), List.map_id']

theorem optSign_upperE (s : List Nat) :
    Spec.optSign (s.map upperE) = ((Spec.optSign s).1, (Spec.optSign s).2.map upperE) := by
  cases s with
  | nil => rfl
  | cons c cs =>
    simp only [List.map_cons, ParseAux.optSign_cons, upperE_eq_iff (k := 45) (by decide) (by decide),
      upperE_eq_iff (k := 43) (by decide) (by decide), apply_ite (List.map upperE), List.map_cons]

/-- after the exponent only the emptiness of the rest matters -/
theorem sExp_upperE (neg : Bool) (D : Nat) (f : Int) (s : List Nat) :
    sRest neg D f (sExp (s.map upperE)) = sRest neg D f (sExp s) := by
  cases s with
  | nil => rfl
  | cons c r =>
    have hc : (upperE c = 101 ∨ upperE c = 69) ↔ (c = 101 ∨ c = 69) := by unfold upperE; split <;> omega
    simp only [List.map_cons, sExp, hc, optSign_upperE, spanDigits_upperE]
    by_cases h : c = 101 ∨ c = 69
    · by_cases he : (Spec.spanDigits (Spec.optSign r).2).1.isEmpty = true <;> simp [h, he, sRest]
    · simp [h, sRest]

theorem sFrac_upperE (s : List Nat) :
    sFrac (s.map upperE) = ((sFrac s).1, (sFrac s).2.1.map upperE, (sFrac s).2.2) := by
  cases s with
  | nil => rfl
  | cons c r =>
    by_cases h : c = 46
    · subst h
      show sFrac (46 :: r.map upperE) = _
      rw [ParseAux.sFrac_point, ParseAux.sFrac_point, spanDigits_upperE]
    · rw [List.map_cons, ParseAux.sFrac_nopoint _ (mt (upperE_eq_iff (by decide) (by decide)).mp h), ParseAux.sFrac_nopoint _ h]
      rfl

theorem sBody_upperE (neg : Bool) (t : List Nat) : sBody neg (t.map upperE) = sBody neg t := by
  simp only [sBody, sTail, spanDigits_upperE, sFrac_upperE, sExp_upperE]

theorem parseSpec_upperE (s : List Nat) : Spec.parseSpec (s.map upperE) = Spec.parseSpec s := by
  cases s with
  | nil => rfl
  | cons c r =>
    show Spec.parseSpec (upperE c :: r.map upperE) = _
    rw [parseSpec_cons, parseSpec_cons, ← List.map_cons, optSign_upperE, sBody_upperE]

/-- the exponent part and the final decision of `Spec.parseSpec`, given sign, integer digits, fraction digits, rest: the stage
    `ParseAux.sTail` of Lemmas/ParseSpec.lean written out (the two are equal by `rfl`); the laws below are proved on the stages -/
def expSpec (neg : Bool) (ip fp s : List Nat) : Spec.ParseRes :=
  if ip.isEmpty ∧ fp.isEmpty then .bad else
  let expPart : Option (Int × List Nat) :=
    match s with
    | c :: r =>
      if c = 101 ∨ c = 69 then
        let (eneg, r) := Spec.optSign r
        let (ed, r') := Spec.spanDigits r
        if ed.isEmpty then none else some ((if eneg then -(Spec.digitsVal ed : Int) else Spec.digitsVal ed), r')
      else some (0, c :: r)
    | [] => some (0, [])
  match expPart with
  | none => .bad
  | some (e, rest) =>
    if !rest.isEmpty then .bad else
    let D : Nat := Spec.digitsVal (ip ++ fp)
    let f : Int := fp.length
    let sgn (c : Nat) : Int := if neg then -(c : Int) else c
    if e ≥ f then
      if D = 0 then .ok 0 0
      else if e - f > 38 then .bad
      else
        let C := D * 10 ^ (e - f).toNat
        if (C : Int) ≤ (2 : Int) ^ 127 - 1 then .ok (sgn C) 0 else .bad
    else
      let nf := f - e
      if nf > 18 then .bad
      else if (D : Int) ≤ (2 : Int) ^ 127 - 1 then .ok (sgn D) nf.toNat else .bad

/-- `ParseAux.sFrac` followed by `ParseAux.sTail`, written out -/
def fracSpec (neg : Bool) (ip s : List Nat) : Spec.ParseRes :=
  let (fp, s, _) : List Nat × List Nat × Bool :=
    match s with
    | 46 :: r => let (f, r') := Spec.spanDigits r; (f, r', true)
    | _ => ([], s, false)
  expSpec neg ip fp s

theorem fracSpec_point (neg : Bool) (ip r : List Nat) :
    fracSpec neg ip (46 :: r) = expSpec neg ip (Spec.spanDigits r).1 (Spec.spanDigits r).2 := rfl

/-- law 1: an explicit `+` in front of a non-empty literal that does not itself start with a sign is irrelevant — a plain
    equation of the model (same value, same error kind, any length).  False for the empty literal and for a signed one (below). -/
theorem from_str_plus (prof : Profile) (c : Nat) (s : List Nat) (h45 : c ≠ 45) (h43 : c ≠ 43) :
    fromStr prof (43 :: c :: s) = fromStr prof (c :: s) := by
  have : takeSign (43 :: c :: s) = takeSign (c :: s) := by simp [takeSign, h45, h43]
  unfold fromStr strToDec
  rw [this]

example : fromStr Profile.dev [43, 49, 46, 53] = fromStr Profile.dev [49, 46, 53] := by decide +kernel   -- "+1.5" / "1.5"
/-- counter-examples of the unrestricted statement: "+" is `Invalid` but "" is `Empty`; "+-1" is rejected but "-1" is accepted -/
example : fromStr Profile.dev [43] ≠ fromStr Profile.dev [] := by decide +kernel
example : fromStr Profile.dev [43, 45, 49] ≠ fromStr Profile.dev [45, 49] := by decide +kernel

/-- law 2 (values): a `-` in front of an unsigned literal negates the coefficient and keeps the fractional digits — and only so -/
theorem from_str_minus (prof : Profile) (c : Nat) (s : List Nat) (h45 : c ≠ 45) (h43 : c ≠ 43)
    (hb : ∀ x ∈ 45 :: c :: s, x < 256) (hlen : (45 :: c :: s).length < 2 ^ 56) (d : Dec) :
    fromStr prof (45 :: c :: s) = .ok (.ok ⟨-d.coeff, d.nfrac⟩) ↔ fromStr prof (c :: s) = .ok (.ok d) := by
  have hb' : ∀ x ∈ c :: s, x < 256 := fun x hx => hb x (List.mem_cons_of_mem _ hx)
  have hlen' : (c :: s).length < 2 ^ 56 := Nat.lt_of_succ_lt hlen
  rw [fromStr_ok_iff prof _ hb hlen, fromStr_ok_iff prof _ hb' hlen', parseSpec_minus_nosign c s h45 h43]
  cases Spec.parseSpec (c :: s) <;> simp [negRes]

/-- law 2 (values), from the unsigned literal to the signed one -/
theorem from_str_minus_ok (prof : Profile) (c : Nat) (s : List Nat) (h45 : c ≠ 45) (h43 : c ≠ 43)
    (hb : ∀ x ∈ 45 :: c :: s, x < 256) (hlen : (45 :: c :: s).length < 2 ^ 56) (d : Dec)
    (h : fromStr prof (c :: s) = .ok (.ok d)) : fromStr prof (45 :: c :: s) = .ok (.ok ⟨-d.coeff, d.nfrac⟩) :=
  (from_str_minus prof c s h45 h43 hb hlen d).mpr h

/-- law 2 (errors): rejected with `-` exactly when rejected without, and never as `Empty`.  (The *kind* of a non-`Empty` error is
    not fixed by the grammar, so it is not part of a law derived from `from_str_spec`.) -/
theorem from_str_minus_err (prof : Profile) (c : Nat) (s : List Nat) (h45 : c ≠ 45) (h43 : c ≠ 43)
    (hb : ∀ x ∈ 45 :: c :: s, x < 256) (hlen : (45 :: c :: s).length < 2 ^ 56) :
    ((∃ e, fromStr prof (45 :: c :: s) = .ok (.error e)) ↔ (∃ e, fromStr prof (c :: s) = .ok (.error e))) ∧
    fromStr prof (45 :: c :: s) ≠ .ok (.error .empty) ∧ fromStr prof (c :: s) ≠ .ok (.error .empty) := by
  have hb' : ∀ x ∈ c :: s, x < 256 := fun x hx => hb x (List.mem_cons_of_mem _ hx)
  have hlen' : (c :: s).length < 2 ^ 56 := Nat.lt_of_succ_lt hlen
  refine ⟨?_, ?_, ?_⟩
  · rw [fromStr_err_iff prof _ hb hlen, fromStr_err_iff prof _ hb' hlen', parseSpec_minus_nosign c s h45 h43]
    cases Spec.parseSpec (c :: s) <;> simp [negRes]
  · rw [Ne, fromStr_empty_iff prof _ hb hlen, parseSpec_eq_empty]; simp
  · rw [Ne, fromStr_empty_iff prof _ hb' hlen', parseSpec_eq_empty]; simp

example : fromStr Profile.dev [49, 46, 53] = .ok (.ok ⟨15, 1⟩) ∧ fromStr Profile.dev [45, 49, 46, 53] = .ok (.ok ⟨-15, 1⟩) := by
  decide   -- "1.5" / "-1.5"
/-- on a sample the error kind is the same too ("1e" / "-1e": `Invalid`) -/
example : fromStr Profile.dev [49, 101] = .ok (.error .invalid) ∧ fromStr Profile.dev [45, 49, 101] = .ok (.error .invalid) := by
  decide
/-- counter-example for a literal that already has a sign: "-1" is −1 but "--1" is not 1 -/
example : fromStr Profile.dev [45, 49] = .ok (.ok ⟨-1, 0⟩) ∧ fromStr Profile.dev [45, 45, 49] ≠ .ok (.ok ⟨1, 0⟩) := by decide +kernel

/-- law 3: the exponent marker is case-insensitive — replacing every `e` of a literal by `E` changes nothing -/
theorem from_str_exp_marker_case (prof : Profile) (s : List Nat) (hb : ∀ c ∈ s, c < 256) (hlen : s.length < 2 ^ 56) :
    SameVerdict prof (s.map upperE) s := by
  apply sameVerdict_of_parseSpec_eq prof _ _ _ _ hb hlen (parseSpec_upperE s)
  · intro c hc
    rw [List.mem_map] at hc
    obtain ⟨a, ha, rfl⟩ := hc
    have := hb a ha
    unfold upperE; split <;> omega
  · rw [List.length_map]; exact hlen

/-- law 3 for a literal with exactly one `e` -/
theorem from_str_exp_marker_case_one (prof : Profile) (pre post : List Nat)
    (hpre : 101 ∉ pre) (hpost : 101 ∉ post)
    (hb : ∀ c ∈ pre ++ 101 :: post, c < 256) (hlen : (pre ++ 101 :: post).length < 2 ^ 56) :
    SameVerdict prof (pre ++ 69 :: post) (pre ++ 101 :: post) := by
  have hid : ∀ l : List Nat, 101 ∉ l → l.map upperE = l := fun l hl =>
    (List.map_congr_left fun a ha => if_neg fun h : a = 101 => hl (h ▸ ha)).trans (List.map_id l)
  have h := from_str_exp_marker_case prof (pre ++ 101 :: post) hb hlen
  rw [List.map_append, List.map_cons, hid pre hpre, hid post hpost] at h
  exact h

example : fromStr Profile.dev [49, 46, 53, 69, 45, 50] = .ok (.ok ⟨15, 3⟩) ∧
    fromStr Profile.dev [49, 46, 53, 101, 45, 50] = .ok (.ok ⟨15, 3⟩) := by decide +kernel   -- "1.5E-2" / "1.5e-2"

/-- law 4: a zero in front of a digit is irrelevant -/
theorem from_str_leading_zero (prof : Profile) (d : Nat) (s : List Nat) (hd : Spec.isDig d = true)
    (hb : ∀ x ∈ 48 :: d :: s, x < 256) (hlen : (48 :: d :: s).length < 2 ^ 56) :
    SameVerdict prof (48 :: d :: s) (d :: s) := by
  have hb' : ∀ x ∈ d :: s, x < 256 := fun x hx => hb x (List.mem_cons_of_mem _ hx)
  have hlen' : (d :: s).length < 2 ^ 56 := Nat.lt_of_succ_lt hlen
  exact sameVerdict_of_parseSpec_eq prof _ _ hb hlen hb' hlen' (parseSpec_leading_zero d s hd)

example : fromStr Profile.dev [48, 55, 46, 50] = fromStr Profile.dev [55, 46, 50] := by decide +kernel   -- "07.2" / "7.2"
/-- a zero in front of a non-digit does matter: "0.5" is accepted, ".5" too, but "0e1" is 0 while "e1" is rejected -/
example : fromStr Profile.dev [48, 101, 49] = .ok (.ok ⟨0, 0⟩) ∧ fromStr Profile.dev [101, 49] = .ok (.error .invalid) := by decide +kernel

/-- law 5: the empty string is the only input with error kind `Empty` -/
theorem from_str_empty_only (prof : Profile) (s : List Nat) (hb : ∀ c ∈ s, c < 256) (hlen : s.length < 2 ^ 56) :
    fromStr prof s = .ok (.error .empty) ↔ s = [] := by
  rw [fromStr_empty_iff prof s hb hlen, parseSpec_eq_empty]

example : fromStr Profile.dev [] = .ok (.error .empty) ∧ fromStr Profile.dev [43] = .ok (.error .invalid) ∧
    fromStr Profile.dev [32] = .ok (.error .invalid) := by decide +kernel

end Fpdec.Props.C06
