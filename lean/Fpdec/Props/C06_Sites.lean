import Fpdec.Gen.Sites
import Fpdec.Model.Pinned

/-! Site ties for C06 (written by tools/mksites.py): the flavour skeleton of every source file the property's operations
execute, as regenerated from /repo on this run, equals the skeleton the model was written against. -/

namespace Fpdec.Props.C06

theorem tie_sites_fpdec_core_src_parser : Gen.sites_fpdec_core_src_parser = Pinned.sites_fpdec_core_src_parser := rfl
theorem tie_sites_fpdec_core_src_powers_of_ten : Gen.sites_fpdec_core_src_powers_of_ten = Pinned.sites_fpdec_core_src_powers_of_ten := rfl
theorem tie_sites_src_lib : Gen.sites_src_lib = Pinned.sites_src_lib := rfl
theorem tie_sites_src_from_str : Gen.sites_src_from_str = Pinned.sites_src_from_str := rfl

end Fpdec.Props.C06
