import Fpdec.Lemmas.Text
import Fpdec.Kernels.Format
import Fpdec.Props.C05
import Fpdec.Props.C11_Sites

/-!
# C11 — Formatting with precision, width, fill, alignment and sign flags

`display_spec`: for every Decimal of the domain, every thread rounding mode, every combination of fill, alignment, `+`, `0`,
width and precision, and every build profile, `format!("{:…}", d)` is `Spec.displaySpec`: the canonical text of `d` rounded to
`min(P, 18)` fractional digits under the mode (zero-extended when `P` exceeds d's digits; exactly that many digits after the
point and no point for 0), sign taken from `d`, padded by std's rule.
`Std.padIntegral` is std's documented padding rule: it is shared by model and spec and validated by the correspondence run
(modelled, not verified).
-/

namespace Fpdec.Props.C11
open Fpdec Fpdec.Model

theorem display_spec (prof : Profile) (tm : Mode) (f : Std.FmtSpec) (d : Dec) (hd : Dom d) :
    display prof tm f d = .ok (Spec.displaySpec tm f d.coeff d.nfrac) :=
  Fpdec.display_spec prof tm f d hd

/-! ### non-vacuity -/
example : display Profile.dev .floor { prec := some 2 } ⟨-1234567, 3⟩ = .ok [45, 49, 50, 51, 52, 46, 53, 55] := by
  decide   -- "-1234.57"

/-! ### translated kernels
The Lean definitions `Gen.K.*` are regenerated from the Rust source on every run by `tools/fpkernels.py` (expression-level
translation; `format!` / `write!` placeholder by placeholder).  These theorems tie them to the hand-written model the property
theorems above are about, and give the end-to-end statements about the *translated* functions. -/
theorem kernel_decimal_display_fmt (prof : Profile) (tm : Mode) (d : Dec) (f : Std.FmtSpec) (hd : Dom d) :
    Gen.K.decimal_display_fmt prof tm d f = display prof tm f d := Kernels.decimal_display_fmt_eq prof tm d f hd
/-- end to end: the translated `Display::fmt` produces the specified text for all flags, widths, precisions and thread modes -/
theorem kernel_display_spec (prof : Profile) (tm : Mode) (f : Std.FmtSpec) (d : Dec) (hd : Dom d) :
    Gen.K.decimal_display_fmt prof tm d f = .ok (Spec.displaySpec tm f d.coeff d.nfrac) := by
  rw [Kernels.decimal_display_fmt_eq prof tm d f hd]; exact display_spec prof tm f d hd

/-! ### algebraic laws: a precision against scaling (`P ≥ p`) and against `round` (`P < p`)
`{ f with prec := … }` stands for "the same fill / alignment / `+` / `0` / width, that precision". -/

private theorem scaled_nonneg (a : Int) (k : Nat) : decide (a * (10 : Int) ^ k ≥ 0) = decide (a ≥ 0) :=
  decide_eq_decide.mpr (Int.mul_nonneg_iff_of_pos_right (pow10_pos k))

/-- with default flags: exactly the canonical text of `x.coeff · 10^(P-p)` with `P` fractional digits — the text of `x` padded
    with zeros -/
theorem display_prec_ge_text (prof : Profile) (tm : Mode) (x : Dec) (P : Nat) (hx : Dom x) (hP : x.nfrac ≤ P) (hP18 : P ≤ 18) :
    display prof tm { prec := some P } x = .ok (Spec.render (x.coeff * (10 : Int) ^ (P - x.nfrac)) P) := by
  rw [display_ge prof tm _ x hx P P rfl (Nat.min_eq_left hP18) hP, ← natAbs_mul_pow10, ← scaled_nonneg x.coeff (P - x.nfrac),
    pad_render]

/-- any flags: Display with precision `P ≥ p` is the precision-free Display of `x` re-expressed with `P` digits, when that is a
    Decimal of the domain -/
theorem display_prec_ge_scaled (prof : Profile) (tm : Mode) (f : Std.FmtSpec) (x : Dec) (P : Nat) (hx : Dom x) (hP : x.nfrac ≤ P)
    (hP18 : P ≤ 18) (hs : Dom ⟨x.coeff * (10 : Int) ^ (P - x.nfrac), P⟩) :
    display prof tm { f with prec := some P } x =
      display prof tm { f with prec := none } ⟨x.coeff * (10 : Int) ^ (P - x.nfrac), P⟩ := by
  rw [display_ge prof tm _ x hx P P rfl (Nat.min_eq_left hP18) hP, display_own prof tm f _ hs, scaled_nonneg, natAbs_mul_pow10,
    padIntegral_prec]

/-- a precision `P < p` is the precision-free Display of `x.round(P)` (the rounding never fails: `C05.round_fewer_digits`) — unless
    a negative `x` rounds to zero: Display keeps the sign of `x` (`-0.00`), the rounded Decimal has none (`0.00`) -/
theorem display_prec_lt_round (prof : Profile) (tm : Mode) (f : Std.FmtSpec) (x r : Dec) (P : Nat) (hx : Dom x) (hP : P < x.nfrac)
    (hr : round prof tm x P = .ok r) (hs : ¬ (x.coeff < 0 ∧ r.coeff = 0)) :
    display prof tm { f with prec := some P } x = display prof tm { f with prec := none } r := by
  rw [C05.round_fewer_digits prof tm x P hx hP] at hr
  cases hr
  obtain ⟨⟨k1, k2⟩, s1, s2⟩ := specRound_dom tm x.coeff ((10 : Int) ^ (x.nfrac - P)) ⟨hx.1, hx.2.1⟩ (pow10_pos _)
  have hd : Dom ⟨Spec.specRound tm x.coeff ((10 : Int) ^ (x.nfrac - P)), P⟩ := ⟨k1, k2, Nat.le_trans (Nat.le_of_lt hP) hx.2.2⟩
  -- a negative `x` rounds to something `≤ 0`; were that also `≥ 0` it would be the excluded zero
  have hsg : decide (Spec.specRound tm x.coeff ((10 : Int) ^ (x.nfrac - P)) ≥ 0) = decide (x.coeff ≥ 0) :=
    decide_eq_decide.mpr ⟨fun h => Int.not_lt.mp fun hc => hs ⟨hc, Int.le_antisymm (s2 hc) h⟩, s1⟩
  rw [display_lt prof tm _ x hx P rfl hP, display_own prof tm f _ hd, hsg, padIntegral_prec]

/-- the excluded case, default flags: a negative `x` that rounds to zero prints `-0.00…`, its rounded value `0.00…` -/
theorem display_prec_lt_neg_zero (prof : Profile) (tm : Mode) (x r : Dec) (P : Nat) (hx : Dom x) (hP : P < x.nfrac)
    (hr : round prof tm x P = .ok r) (hneg : x.coeff < 0) (h0 : r.coeff = 0) :
    display prof tm { prec := some P } x = .ok (45 :: Spec.render 0 P) ∧ display prof tm {} r = .ok (Spec.render 0 P) := by
  rw [C05.round_fewer_digits prof tm x P hx hP] at hr
  cases hr
  simp only at h0
  have hd : Dom ⟨0, P⟩ :=
    ⟨(by decide : I128_MIN < 0), (by decide : (0 : Int) ≤ I128_MAX), Nat.le_trans (Nat.le_of_lt hP) hx.2.2⟩
  constructor
  · rw [display_lt prof tm _ x hx P rfl hP, pad_plain, h0, if_pos hneg]
    rfl
  · rw [h0]
    exact display_default prof tm ⟨0, P⟩ hd

example : display Profile.dev .heven { prec := some 4 } ⟨-125, 2⟩ = .ok [45, 49, 46, 50, 53, 48, 48] ∧          -- "-1.2500"
    display Profile.dev .heven {} ⟨-12500, 4⟩ = .ok [45, 49, 46, 50, 53, 48, 48] := by decide +kernel
example : display Profile.dev .heven { prec := some 1 } ⟨-125, 2⟩ = .ok [45, 49, 46, 50] ∧                       -- "-1.2"
    round Profile.dev .heven ⟨-125, 2⟩ 1 = .ok ⟨-12, 1⟩ ∧ display Profile.dev .heven {} ⟨-12, 1⟩ = .ok [45, 49, 46, 50] := by decide +kernel
-- the sign subtlety: `-0.004` with precision 2 prints "-0.00", while `round(2)` is the Decimal `0.00`, printed "0.00"
example : display Profile.dev .heven { prec := some 2 } ⟨-4, 3⟩ = .ok [45, 48, 46, 48, 48] ∧
    round Profile.dev .heven ⟨-4, 3⟩ 2 = .ok ⟨0, 2⟩ ∧ display Profile.dev .heven {} ⟨0, 2⟩ = .ok [48, 46, 48, 48] := by decide +kernel
-- the scaled coefficient need not fit an i128: `Decimal::MAX` (no fractional digits) at precision 1
example : display Profile.release .heven { prec := some 1 } Dec.MAX =
    .ok (Spec.render (I128_MAX * 10) 1) := by decide +kernel

end Fpdec.Props.C11
