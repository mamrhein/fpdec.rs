import Fpdec.Lemmas.Threads
import Fpdec.Gen.KTls
import Fpdec.Kernels.Round
import Fpdec.Props.C19_Sites

/-!
# C19 — The default rounding mode is per thread and starts as HalfEven

State-machine model (`Model/Threads.lean`): a world maps storage cells to modes; which cell a thread uses (`cellOf`) and the initial
value (`dfltInit`) are read from the source on every run (`Gen.DFLT_MODE_THREAD_LOCAL`, `Gen.DFLT_MODE_INIT`): with `thread_local!`
every thread has its own cell, with a process-wide `static` all threads would share cell 0 — and `isolation` below would be false.

* `storage_is_thread_local`, `initial_mode`: what the source says now.
* `isolation`: after any schedule (any interleaving of `set_default` / `default()` / `Decimal::round` of any number of threads —
  the steps of `ThreadOp`; the other rounding operations take the mode as the argument `tm`, and that `tm` is `default()` of the
  calling thread is the translator's reading of the source, not a theorem) the mode seen by thread `t` — by `default()` and by
  `round` executed on `t` — is the one `t` set last, else the one it saw before the schedule; operations of other threads never
  change it.
* `new_thread_starts_half_even`: a thread that never called `set_default` sees `RoundHalfEven` whatever the others did.
The run-time behaviour of `thread_local!` itself (OS threads, TLS) has no counterpart in the model: it is exercised by the
correspondence run, which replays schedules on real OS threads, each schedule in a fresh process (partial).
-/

namespace Fpdec.Props.C19
open Fpdec Fpdec.Model

theorem storage_is_thread_local : Gen.DFLT_MODE_THREAD_LOCAL = true := by decide

theorem initial_mode : dfltInit = Mode.heven := by decide

/-- the world after a schedule -/
def after (prof : Profile) (w : World) : List ThreadOp → World
  | [] => w
  | op :: ops => after prof (threadStep prof w op).1 ops

/-- the mode thread `t` set last in a schedule, if any -/
def lastSet (t : Nat) : List ThreadOp → Option Mode
  | [] => none
  | .set t' m :: ops => match lastSet t ops with
    | some m' => some m'
    | none => if t' = t then some m else none
  | _ :: ops => lastSet t ops

/-- the default mode of thread `t` after any schedule is the mode `t` itself set last, else what it was before -/
theorem isolation (prof : Profile) (ops : List ThreadOp) (w : World) (t : Nat) :
    (after prof w ops).default t = (lastSet t ops).getD (w.default t) := by
  induction ops generalizing w with
  | nil => simp [after, lastSet]
  | cons op ops ih =>
    unfold after
    rw [ih, step_default]
    cases op with
    | set t' m =>
      simp only [lastSet]
      cases h : lastSet t ops with
      | some m' => simp
      | none =>
        by_cases ht : t = t'
        · subst ht; simp
        · have : ¬ t' = t := fun e => ht e.symm
          simp [ht, this]
    | get t' => simp [lastSet]
    | round t' c p n => simp [lastSet]
    | probe t' => simp [lastSet]

theorem new_thread_starts_half_even (prof : Profile) (ops : List ThreadOp) (t : Nat) (h : lastSet t ops = none) :
    (after prof [] ops).default t = Mode.heven := by
  rw [isolation, h]
  simp [World.default, World.read, initial_mode]

/-- every observation of the schedule runner is made with the world produced by the preceding operations: a rounding operation on
    thread `t` rounds under `t`'s own mode -/
theorem runSchedule_cons (prof : Profile) (w : World) (op : ThreadOp) (ops : List ThreadOp) :
    runSchedule prof w (op :: ops) = (threadStep prof w op).2 :: runSchedule prof (threadStep prof w op).1 ops := rfl

theorem round_uses_own_mode (prof : Profile) (w : World) (t : Nat) (c : Int) (p : Nat) (n : Int) :
    (threadStep prof w (.round t c p n)).2 = .dec (round prof (w.default t) ⟨c, p⟩ n) := rfl

/-! ### non-vacuity: two threads, interleaved -/
example : runSchedule Profile.dev [] [.set 1 .up, .get 1, .get 2, .round 1 15 1 0, .round 2 15 1 0] =
    [.none, .mode .up, .mode .heven, .dec (.ok ⟨2, 0⟩), .dec (.ok ⟨2, 0⟩)] := by decide +kernel
example : runSchedule Profile.dev [] [.set 1 .down, .set 2 .up, .round 1 15 1 0, .round 2 15 1 0] =
    [.none, .none, .dec (.ok ⟨1, 0⟩), .dec (.ok ⟨2, 0⟩)] := by decide +kernel

/-! ### translated kernels
`RoundingMode::default()` and `RoundingMode::set_default(mode)` as re-translated from rounding.rs on this run by
`tools/fpkernels.py`: the access pattern `DFLT_ROUNDING_MODE.with(|m| *m.borrow())` reads the calling thread's cell (the explicit
parameter `cell`), `… .with(|m| *m.borrow_mut() = mode)` replaces its contents (returned).  With the storage class read from the
source (`storage_is_thread_local`) the cell of thread `t` is `cellOf t`; these ties say that the two functions are exactly the
`default` / `setDefault` of the world the schedule theorems are about, and that `round_quot` consults the mode through them. -/
theorem kernel_rounding_mode_default (prof : Profile) (w : World) (t : Nat) :
    Gen.K.rounding_mode_default prof (w.read (cellOf t)) = .ok (w.default t) := rfl
theorem kernel_rounding_mode_set_default (prof : Profile) (w : World) (t : Nat) (m : Mode) :
    Gen.K.rounding_mode_set_default prof (w.read (cellOf t)) m = .ok ((w.setDefault t m).default t) := by
  rw [default_setDefault, if_pos rfl]; rfl
/-- writing thread `t`'s cell leaves the cell every other thread reads unchanged -/
theorem kernel_set_default_other (w : World) (t t' : Nat) (m : Mode) (h : t' ≠ t) :
    (w.setDefault t m).default t' = w.default t' := by
  rw [default_setDefault, if_neg h]
/-- the tie of the rounding kernel at `mode = None` and `tm` = what `default()` returns on the calling thread (an instance of
    `C16.kernel_round_quot`: world and thread play no role in it) -/
theorem kernel_round_quot_uses_default (prof : Profile) (w : World) (t : Nat) (quot : Int) (rem divisor : Nat)
    (hq : fitsI128 quot = true) :
    Gen.K.round_quot prof (w.default t) quot rem divisor none = .ok (roundQuot (w.default t) quot rem divisor none) :=
  Kernels.round_quot_eq prof (w.default t) quot rem divisor none hq

end Fpdec.Props.C19
