import Fpdec.Kernels.Lib
import Fpdec.Kernels.AddSub
import Fpdec.Kernels.Pow
import Fpdec.Lemmas.Dom
import Fpdec.Props.C01_Sites

/-!
# C01 — Addition and subtraction are exact or signal overflow

`x ± y` carries `max p q` fractional digits and the exact aligned sum; the operators panic with the overflow message and the
checked variants return `None` exactly when an aligned operand or the sum leaves the i128 range; nothing else ever panics
(`add_sub_spec`, `checked_add_sub_spec`, `add_sub_value`).  The integer-operand bodies (written separately in the macros
`impl_add_sub_decimal_and_int`, `impl_checked_add_sub_decimal_and_int`) compute the same function as the Decimal body on
`Decimal::from(i)` (`add_sub_int_spec`, `checked_add_sub_int_spec`).
All statements hold for every build profile: the model of these functions takes no profile argument, which is C20 for
`+ - += -=`.  The coefficient arithmetic is `checked_*` throughout; the one plain operator in the source, the `u8` difference of the
digit counts, stands behind their comparison (`kernel_add_sub`).
-/

namespace Fpdec.Props.C01
open Fpdec Fpdec.Model

/-- `x ± y` is `x.checked_add(y)` / `x.checked_sub(y)` with `None` replaced by the overflow panic; the hypotheses keep the scaling
    exponent inside the table of powers of ten (past it the operator panics with an index panic, the checked variant returns
    `None`) -/
theorem add_sub_eq_checked (sub : Bool) (x y : Dec) (hp : x.nfrac ≤ 38) (hq : y.nfrac ≤ 38) :
    addSub sub x y = panicOnNone (.ok (checkedAddSub sub x y)) := by
  rw [panicOnNone_ok]
  unfold addSub checkedAddSub
  cases compare x.nfrac y.nfrac <;>
    simp only [coeffOrPanic, mulPowTen_eq_checked _ _ (Nat.le_trans (Nat.sub_le _ _) hp),
      mulPowTen_eq_checked _ _ (Nat.le_trans (Nat.sub_le _ _) hq), ofOption_bind, ofOption_pure, Outcome.pure_eq]

/-- the integer bodies are the Decimal bodies on `Decimal::from(i)` -/
theorem checkedAddSubInt_eq (sub intLeft : Bool) (d : Dec) (i : Int) :
    checkedAddSubInt sub intLeft d i = if intLeft then checkedAddSub sub ⟨i, 0⟩ d else checkedAddSub sub d ⟨i, 0⟩ := by
  unfold checkedAddSubInt checkedAddSub
  by_cases hp : d.nfrac = 0
  · cases intLeft <;> simp [hp]
  · have h1 : compare 0 d.nfrac = .lt := Nat.compare_eq_lt.mpr (by omega)
    have h2 : compare d.nfrac 0 = .gt := Nat.compare_eq_gt.mpr (by omega)
    cases intLeft <;> simp only [hp, h1, h2, if_false, if_true, Bool.false_eq_true, Nat.sub_zero]

theorem addSubInt_eq (sub intLeft : Bool) (d : Dec) (i : Int) :
    addSubInt sub intLeft d i = if intLeft then addSub sub ⟨i, 0⟩ d else addSub sub d ⟨i, 0⟩ := by
  unfold addSubInt addSub
  by_cases hp : d.nfrac = 0
  · cases intLeft <;> simp [hp]
  · have h1 : compare 0 d.nfrac = .lt := Nat.compare_eq_lt.mpr (by omega)
    have h2 : compare d.nfrac 0 = .gt := Nat.compare_eq_gt.mpr (by omega)
    cases intLeft <;> simp only [hp, h1, h2, if_false, if_true, Bool.false_eq_true, Nat.sub_zero]

/-- the integer shapes (`Decimal ± int`, `int ± Decimal`, 9 integer types) against their checked variants -/
theorem add_sub_int_eq_checked (sub intLeft : Bool) (d : Dec) (i : Int) (hp : d.nfrac ≤ 38) :
    addSubInt sub intLeft d i = panicOnNone (.ok (checkedAddSubInt sub intLeft d i)) := by
  rw [addSubInt_eq, checkedAddSubInt_eq]
  split
  · exact add_sub_eq_checked sub ⟨i, 0⟩ d (Nat.zero_le _) hp
  · exact add_sub_eq_checked sub d ⟨i, 0⟩ hp (Nat.zero_le _)

/-- the three branches of `checked_add` / `checked_sub` are one: the branch only skips the scaling by `10^0` -/
theorem checkedAddSub_aligned (sub : Bool) (x y : Dec) (hx : fitsI128 x.coeff = true) (hy : fitsI128 y.coeff = true) :
    checkedAddSub sub x y = (do
      let a ← checkedMulPowTen x.coeff (max x.nfrac y.nfrac - x.nfrac)
      let b ← checkedMulPowTen y.coeff (max x.nfrac y.nfrac - y.nfrac)
      let c ← checkedI128 (if sub then a - b else a + b)
      pure ⟨c, max x.nfrac y.nfrac⟩) := by
  unfold checkedAddSub
  rcases Nat.lt_trichotomy x.nfrac y.nfrac with h | h | h
  · rw [Nat.compare_eq_lt.mpr h, Nat.max_eq_right (Nat.le_of_lt h), Nat.sub_self, checkedMulPowTen_zero hy]; rfl
  · rw [Nat.compare_eq_eq.mpr h, h, Nat.max_self, Nat.sub_self, checkedMulPowTen_zero hx, checkedMulPowTen_zero hy]; rfl
  · rw [Nat.compare_eq_gt.mpr h, Nat.max_eq_left (Nat.le_of_lt h), Nat.sub_self, checkedMulPowTen_zero hx]; rfl

theorem checkedAddSub_spec (sub : Bool) (x y : Dec) (hx : fitsI128 x.coeff = true) (hy : fitsI128 y.coeff = true)
    (hp : x.nfrac ≤ 38) (hq : y.nfrac ≤ 38) :
    Spec.allowedChecked (Spec.addSub sub x.coeff x.nfrac y.coeff y.nfrac)
      (outOptPair (.ok (checkedAddSub sub x y))) = true := by
  rw [checkedAddSub_aligned sub x y hx hy, checkedMulPowTen_eq _ _ (by omega), checkedMulPowTen_eq _ _ (by omega)]
  unfold Spec.addSub
  simp only [spec_fits_eq]
  cases h1 : fitsI128 (x.coeff * 10 ^ (max x.nfrac y.nfrac - x.nfrac))
  · rw [checkedI128_none h1]; rfl
  · cases h2 : fitsI128 (y.coeff * 10 ^ (max x.nfrac y.nfrac - y.nfrac))
    · rw [checkedI128_some h1, checkedI128_none h2]; rfl
    · rw [checkedI128_some h1, checkedI128_some h2]
      exact valFitSharp_checked _ _

theorem addSub_spec (sub : Bool) (x y : Dec) (hx : fitsI128 x.coeff = true) (hy : fitsI128 y.coeff = true)
    (hp : x.nfrac ≤ 38) (hq : y.nfrac ≤ 38) :
    Spec.allowedOp (Spec.addSub sub x.coeff x.nfrac y.coeff y.nfrac) (outPair (addSub sub x y)) = true := by
  rw [add_sub_eq_checked sub x y hp hq]
  exact allowedOp_panicOnNone (.ite trivial trivial) (checkedAddSub_spec sub x y hx hy hp hq)

/-- `+` and `-` on two Decimals (all reference forms and `+=`/`-=` forward to this body) -/
theorem add_sub_spec (sub : Bool) (x y : Dec) (hx : Dom x) (hy : Dom y) :
    Spec.allowedOp (Spec.addSub sub x.coeff x.nfrac y.coeff y.nfrac) (outPair (addSub sub x y)) = true :=
  addSub_spec sub x y hx.fits hy.fits hx.nfrac_le_38 hy.nfrac_le_38

/-- `checked_add` / `checked_sub` on two Decimals: `Some(exact)` or `None`, never a panic -/
theorem checked_add_sub_spec (sub : Bool) (x y : Dec) (hx : Dom x) (hy : Dom y) :
    Spec.allowedChecked (Spec.addSub sub x.coeff x.nfrac y.coeff y.nfrac)
      (outOptPair (.ok (checkedAddSub sub x y))) = true :=
  checkedAddSub_spec sub x y hx.fits hy.fits hx.nfrac_le_38 hy.nfrac_le_38

/-- the expectation for an integer operand: the same operation with `Decimal::from(i)` in that position -/
def specInt (sub intLeft : Bool) (d : Dec) (i : Int) : Spec.Exp :=
  if intLeft then Spec.addSub sub i 0 d.coeff d.nfrac else Spec.addSub sub d.coeff d.nfrac i 0

/-- `Decimal ± int` and `int ± Decimal` (9 integer types: every value of them is an `i128`) -/
theorem add_sub_int_spec (sub intLeft : Bool) (d : Dec) (i : Int) (hd : Dom d) (hi : fitsI128 i = true) :
    Spec.allowedOp (specInt sub intLeft d i) (outPair (addSubInt sub intLeft d i)) = true := by
  rw [addSubInt_eq, specInt]
  split
  · exact addSub_spec sub ⟨i, 0⟩ d hi hd.fits (Nat.zero_le _) hd.nfrac_le_38
  · exact addSub_spec sub d ⟨i, 0⟩ hd.fits hi hd.nfrac_le_38 (Nat.zero_le _)

/-- `checked_add` / `checked_sub` with an integer operand on either side -/
theorem checked_add_sub_int_spec (sub intLeft : Bool) (d : Dec) (i : Int) (hd : Dom d) (hi : fitsI128 i = true) :
    Spec.allowedChecked (specInt sub intLeft d i) (outOptPair (.ok (checkedAddSubInt sub intLeft d i))) = true := by
  rw [checkedAddSubInt_eq, specInt]
  split
  · exact checkedAddSub_spec sub ⟨i, 0⟩ d hi hd.fits (Nat.zero_le _) hd.nfrac_le_38
  · exact checkedAddSub_spec sub d ⟨i, 0⟩ hd.fits hi hd.nfrac_le_38 (Nat.zero_le _)

/-- the result, when there is one, has exactly the value `x ± y` (stated without fractions:
    both sides scaled to `max p q` digits) and carries `max p q` fractional digits -/
theorem add_sub_value (sub : Bool) (x y r : Dec) (hx : Dom x) (hy : Dom y) (h : addSub sub x y = .ok r) :
    r.nfrac = max x.nfrac y.nfrac ∧
    r.coeff = (if sub then x.coeff * 10 ^ (r.nfrac - x.nfrac) - y.coeff * 10 ^ (r.nfrac - y.nfrac)
               else x.coeff * 10 ^ (r.nfrac - x.nfrac) + y.coeff * 10 ^ (r.nfrac - y.nfrac)) := by
  obtain ⟨-, rfl⟩ := ok_of_allowed_ite (h ▸ add_sub_spec sub x y hx hy)
  exact ⟨rfl, rfl⟩

/-! ### non-vacuity: the hypotheses are satisfiable and every branch of the spec is hit -/
example : Dom ⟨15, 1⟩ ∧ Dom ⟨25, 2⟩ ∧ addSub false ⟨15, 1⟩ ⟨25, 2⟩ = .ok ⟨175, 2⟩ := by decide +kernel
example : Dom Dec.MAX ∧ Dom Dec.ONE ∧ addSub false Dec.MAX Dec.ONE = .panic .overflow ∧
    checkedAddSub false Dec.MAX Dec.ONE = none := by decide +kernel
example : addSub true ⟨I128_MAX, 0⟩ ⟨1, 18⟩ = .panic .overflow := by decide +kernel
example : addSubInt true true ⟨I128_MAX, 0⟩ (-1) = .ok ⟨I128_MIN, 0⟩ := by decide +kernel

/-! ### translated kernels
The Lean definitions `Gen.K.*` are regenerated from the Rust source on every run by `tools/fpkernels.py` (expression-level
translation).  These theorems tie them to the hand-written model the property theorems above are about: a change of the Rust
kernel that changes its translation breaks them. -/
theorem kernel_ten_pow (prof : Profile) (n : Nat) : Gen.K.ten_pow prof n = tenPow n := Kernels.ten_pow_eq prof n
theorem kernel_mul_pow_ten (prof : Profile) (val : Int) (n : Nat) : Gen.K.mul_pow_ten prof val n = mulPowTen val n :=
  Kernels.mul_pow_ten_eq prof val n
theorem kernel_checked_mul_pow_ten (prof : Profile) (val : Int) (n : Nat) :
    Gen.K.checked_mul_pow_ten prof val n = .ok (checkedMulPowTen val n) := Kernels.checked_mul_pow_ten_eq prof val n
theorem kernel_checked_adjust_coeffs (prof : Profile) (x : Int) (p : Nat) (y : Int) (q : Nat) (hp : p < 256) (hq : q < 256) :
    Gen.K.checked_adjust_coeffs prof x p y q = .ok (checkedAdjustCoeffs x p y q) :=
  Kernels.checked_adjust_coeffs_eq prof x p y q hp hq

/-- `Decimal ± Decimal` (operator and checked bodies, instantiated from the `macro_rules!` definitions with the arguments of their
    invocations) and the integer forms `Decimal ± int`, `int ± Decimal`, as translated on this run -/
theorem kernel_add_sub (prof : Profile) (sub : Bool) (x y : Dec) (hp : x.nfrac < 256) (hq : y.nfrac < 256) :
    (if sub then Gen.K.decimal_sub prof x y else Gen.K.decimal_add prof x y) = addSub sub x y :=
  Kernels.add_sub_eq prof sub x y hp hq
theorem kernel_checked_add_sub (prof : Profile) (sub : Bool) (x y : Dec) (hp : x.nfrac < 256) (hq : y.nfrac < 256) :
    (if sub then Gen.K.decimal_checked_sub prof x y else Gen.K.decimal_checked_add prof x y) = .ok (checkedAddSub sub x y) :=
  Kernels.checked_add_sub_eq prof sub x y hp hq
theorem kernel_add_sub_dec_int (prof : Profile) (sub : Bool) (d : Dec) (i : Int) :
    (if sub then Gen.K.decimal_sub_int prof d i else Gen.K.decimal_add_int prof d i) = addSubInt sub false d i :=
  Kernels.add_sub_dec_int_eq prof sub d i
theorem kernel_add_sub_int_dec (prof : Profile) (sub : Bool) (d : Dec) (i : Int) :
    (if sub then Gen.K.int_sub_decimal prof i d else Gen.K.int_add_decimal prof i d) = addSubInt sub true d i :=
  Kernels.add_sub_int_dec_eq prof sub d i

/-- the integer forms of `checked_add` / `checked_sub` in both operand orders (macro bodies instantiated with `i64`) -/
theorem kernel_decimal_checked_add_int (prof : Profile) (d : Dec) (i : Int) :
    Gen.K.decimal_checked_add_int prof d i = .ok (checkedAddSubInt false false d i) := Kernels.decimal_checked_add_int_eq prof d i
theorem kernel_decimal_checked_sub_int (prof : Profile) (d : Dec) (i : Int) :
    Gen.K.decimal_checked_sub_int prof d i = .ok (checkedAddSubInt true false d i) := Kernels.decimal_checked_sub_int_eq prof d i
theorem kernel_int_checked_add_decimal (prof : Profile) (i : Int) (d : Dec) :
    Gen.K.int_checked_add_decimal prof i d = .ok (checkedAddSubInt false true d i) := Kernels.int_checked_add_decimal_eq prof i d
theorem kernel_int_checked_sub_decimal (prof : Profile) (i : Int) (d : Dec) :
    Gen.K.int_checked_sub_decimal prof i d = .ok (checkedAddSubInt true true d i) := Kernels.int_checked_sub_decimal_eq prof i d

/-- the associated constants of `Decimal` as extracted from src/lib.rs on this run are the model's (`ZERO`/`ONE` are what the
    translated kernels return for `Self::ZERO` / `Self::ONE`; `MIN ..= MAX` with at most `DELTA`'s digits is the domain `Dom`) -/
theorem decimal_consts :
    Gen.DECIMAL_CONSTS =
      [("ZERO", Dec.ZERO.coeff, Dec.ZERO.nfrac), ("ONE", Dec.ONE.coeff, Dec.ONE.nfrac),
       ("NEG_ONE", Dec.NEG_ONE.coeff, Dec.NEG_ONE.nfrac), ("TWO", Dec.TWO.coeff, Dec.TWO.nfrac),
       ("TEN", Dec.TEN.coeff, Dec.TEN.nfrac), ("MAX", Dec.MAX.coeff, Dec.MAX.nfrac), ("MIN", Dec.MIN.coeff, Dec.MIN.nfrac),
       ("DELTA", Dec.DELTA.coeff, Dec.DELTA.nfrac)] := Kernels.decimal_consts_tie
theorem dom_is_min_max (d : Dec) :
    (Dec.MIN.coeff ≤ d.coeff ∧ d.coeff ≤ Dec.MAX.coeff ∧ d.nfrac ≤ Dec.DELTA.nfrac) ↔ Dom d := Kernels.dom_is_min_max d

/-! ### algebraic laws
Model-level corollaries: equalities of `Outcome` values, so the two sides also panic together (and with the same panic kind). -/

/-- `x + y = y + x`, as outcomes (same value and representation, or the same panic); no domain restriction is needed -/
theorem add_commutes (x y : Dec) : addSub false x y = addSub false y x := by
  unfold addSub
  rw [← Nat.compare_swap y.nfrac x.nfrac]
  cases h : compare y.nfrac x.nfrac
  · simp only [Ordering.swap, Bool.false_eq_true, if_false, Int.add_comm]
  · simp only [Ordering.swap, Bool.false_eq_true, if_false, Int.add_comm, Nat.compare_eq_eq.mp h]
  · simp only [Ordering.swap, Bool.false_eq_true, if_false, Int.add_comm]

/-- `2^127` is not a multiple of ten, so scaling never produces `±2^127` from another number: negating the scaled operand and
    scaling the negated operand overflow together -/
theorem checkedMulPowTen_neg {b : Int} (k : Nat) (hk : k ≤ 38) (h1 : b ≠ I128_MIN) (h2 : -b ≠ I128_MIN) :
    checkedMulPowTen (-b) k = (checkedMulPowTen b k).map (- ·) := by
  have hf := fitsI128_neg (mul_pow10_ne_min_of_ne h1 k) (Int.neg_mul b _ ▸ mul_pow10_ne_min_of_ne h2 k)
  rw [checkedMulPowTen_eq _ _ hk, checkedMulPowTen_eq _ _ hk, Int.neg_mul]
  unfold checkedI128
  rw [hf]
  split <;> rfl

/-- `x - y = x + (-y)`, as outcomes (the negation of a `Dom` operand cannot overflow) -/
theorem sub_eq_add_neg (x y : Dec) (hx : Dom x) (hy : Dom y) :
    addSub true x y = addSub false x ⟨-y.coeff, y.nfrac⟩ := by
  have h1 : y.coeff ≠ I128_MIN := Int.ne_of_gt hy.1
  have h2 : -y.coeff ≠ I128_MIN := by have := hy.2.1; unfold I128_MIN I128_MAX at *; omega
  rw [add_sub_eq_checked _ _ _ hx.nfrac_le_38 hy.nfrac_le_38, add_sub_eq_checked _ x ⟨-y.coeff, y.nfrac⟩ hx.nfrac_le_38 hy.nfrac_le_38,
    checkedAddSub_aligned _ _ _ hx.fits hy.fits, checkedAddSub_aligned _ x ⟨-y.coeff, y.nfrac⟩ hx.fits (fitsI128_neg h1 h2 ▸ hy.fits),
    checkedMulPowTen_neg _ (by have := hx.2.2; omega) h1 h2]
  simp only [Option.bind_eq_bind, Option.bind_map, Function.comp_def, Int.sub_eq_add_neg, if_true, Bool.false_eq_true, if_false]

/-- adding a zero that has no more fractional digits than `x` is the identity (value and representation) -/
theorem add_zero_right (x y : Dec) (hx : Dom x) (h0 : y.coeff = 0) (hq : y.nfrac ≤ x.nfrac) : addSub false x y = .ok x := by
  have hy : Dom y := ⟨by rw [h0]; decide, by rw [h0]; decide, Nat.le_trans hq hx.2.2⟩
  have e : Spec.addSub false x.coeff x.nfrac y.coeff y.nfrac = .val x.coeff x.nfrac := by
    have h00 : fitsI128 0 = true := by decide
    unfold Spec.addSub
    simp [h0, Nat.max_eq_left hq, spec_fits_eq, hx.fits, h00]
  exact ok_of_allowed_val (e ▸ add_sub_spec false x y hx hy)

/-- `0 + x` likewise -/
theorem add_zero_left (x y : Dec) (hx : Dom x) (h0 : y.coeff = 0) (hq : y.nfrac ≤ x.nfrac) : addSub false y x = .ok x := by
  rw [add_commutes]; exact add_zero_right x y hx h0 hq

/-- `x - x` is the zero with `x`'s number of fractional digits, for every `x` -/
theorem sub_self_zero (x : Dec) : addSub true x x = .ok ⟨0, x.nfrac⟩ := by
  unfold addSub
  simp only [Nat.compare_eq_eq.mpr rfl, if_true, Int.sub_self]
  rfl

example : addSub false ⟨15, 1⟩ ⟨-2575, 3⟩ = .ok ⟨-1075, 3⟩ ∧ addSub false ⟨-2575, 3⟩ ⟨15, 1⟩ = .ok ⟨-1075, 3⟩ := by decide +kernel
example : addSub false ⟨I128_MAX, 0⟩ ⟨1, 1⟩ = .panic .overflow ∧ addSub false ⟨1, 1⟩ ⟨I128_MAX, 0⟩ = .panic .overflow := by decide +kernel
example : addSub true ⟨15, 3⟩ ⟨-25, 1⟩ = .ok ⟨2515, 3⟩ ∧ addSub false ⟨15, 3⟩ ⟨25, 1⟩ = .ok ⟨2515, 3⟩ := by decide +kernel
example : addSub false ⟨-15, 3⟩ ⟨0, 1⟩ = .ok ⟨-15, 3⟩ ∧ addSub false ⟨-15, 1⟩ ⟨0, 3⟩ = .ok ⟨-1500, 3⟩ ∧
    addSub false ⟨I128_MAX, 0⟩ ⟨0, 1⟩ = .panic .overflow := by decide +kernel
example : addSub true ⟨-2575, 3⟩ ⟨-2575, 3⟩ = .ok ⟨0, 3⟩ ∧ addSub true ⟨I128_MIN, 40⟩ ⟨I128_MIN, 40⟩ = .ok ⟨0, 40⟩ := by decide +kernel

/-! ### algebraic laws: the checked variants agree with the operators
`checked_add` / `checked_sub` never panic (they are `Option`-valued in the model: no panicking site occurs in them); the operator is
the checked variant with `None` turned into the overflow panic (`add_sub_eq_checked`, `add_sub_int_eq_checked`). -/

/-- `Some(r)` exactly when the operator returns `r` -/
theorem checked_add_sub_some_iff (sub : Bool) (x y r : Dec) (hx : Dom x) (hy : Dom y) :
    checkedAddSub sub x y = some r ↔ addSub sub x y = .ok r := by
  rw [add_sub_eq_checked sub x y hx.nfrac_le_38 hy.nfrac_le_38, panicOnNone_eq_ok_iff, Outcome.ok.injEq]

/-- `None` exactly when the operator panics, and the panic is the overflow panic -/
theorem checked_add_sub_none_iff (sub : Bool) (x y : Dec) (hx : Dom x) (hy : Dom y) :
    checkedAddSub sub x y = none ↔ addSub sub x y = .panic .overflow := by
  rw [add_sub_eq_checked sub x y hx.nfrac_le_38 hy.nfrac_le_38, panicOnNone_eq_panic_iff ⟨_, rfl⟩, Outcome.ok.injEq]
  exact (and_iff_left rfl).symm

/-- `+` / `-` on Decimals of the domain raise no other panic than the overflow panic -/
theorem add_sub_panic_kind (sub : Bool) (x y : Dec) (k : PanicKind) (hx : Dom x) (hy : Dom y)
    (h : addSub sub x y = .panic k) : k = .overflow := by
  rw [add_sub_eq_checked sub x y hx.nfrac_le_38 hy.nfrac_le_38, panicOnNone_eq_panic_iff ⟨_, rfl⟩] at h
  exact h.2

theorem checked_add_sub_int_some_iff (sub intLeft : Bool) (d r : Dec) (i : Int) (hd : Dom d) :
    checkedAddSubInt sub intLeft d i = some r ↔ addSubInt sub intLeft d i = .ok r := by
  rw [add_sub_int_eq_checked sub intLeft d i hd.nfrac_le_38, panicOnNone_eq_ok_iff, Outcome.ok.injEq]

theorem checked_add_sub_int_none_iff (sub intLeft : Bool) (d : Dec) (i : Int) (hd : Dom d) :
    checkedAddSubInt sub intLeft d i = none ↔ addSubInt sub intLeft d i = .panic .overflow := by
  rw [add_sub_int_eq_checked sub intLeft d i hd.nfrac_le_38, panicOnNone_eq_panic_iff ⟨_, rfl⟩, Outcome.ok.injEq]
  exact (and_iff_left rfl).symm

theorem add_sub_int_panic_kind (sub intLeft : Bool) (d : Dec) (i : Int) (k : PanicKind) (hd : Dom d)
    (h : addSubInt sub intLeft d i = .panic k) : k = .overflow := by
  rw [add_sub_int_eq_checked sub intLeft d i hd.nfrac_le_38, panicOnNone_eq_panic_iff ⟨_, rfl⟩] at h
  exact h.2

example : checkedAddSub false ⟨15, 1⟩ ⟨25, 2⟩ = some ⟨175, 2⟩ ∧ addSub false ⟨15, 1⟩ ⟨25, 2⟩ = .ok ⟨175, 2⟩ ∧
    checkedAddSub true ⟨I128_MIN + 1, 0⟩ ⟨1, 0⟩ = some ⟨I128_MIN, 0⟩ ∧ addSub true ⟨I128_MIN + 1, 0⟩ ⟨1, 0⟩ = .ok ⟨I128_MIN, 0⟩ ∧
    checkedAddSub true ⟨I128_MIN + 1, 0⟩ ⟨2, 0⟩ = none ∧ addSub true ⟨I128_MIN + 1, 0⟩ ⟨2, 0⟩ = .panic .overflow ∧
    checkedAddSubInt true true ⟨5, 1⟩ 3 = some ⟨25, 1⟩ ∧ addSubInt true true ⟨5, 1⟩ 3 = .ok ⟨25, 1⟩ ∧
    checkedAddSubInt false false ⟨5, 1⟩ I128_MAX = none ∧ addSubInt false false ⟨5, 1⟩ I128_MAX = .panic .overflow := by decide +kernel
-- outside the hypothesis (a scaling exponent past the table of powers): index panic against `None`
example : addSub false ⟨1, 39⟩ ⟨1, 0⟩ = .panic .index ∧ checkedAddSub false ⟨1, 39⟩ ⟨1, 0⟩ = none := by decide +kernel

end Fpdec.Props.C01
