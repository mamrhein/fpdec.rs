import Fpdec.Kernels.Lib
import Fpdec.Lemmas.FromFloatNorm
import Fpdec.Props.C04
import Fpdec.Props.C03_Sites

/-!
# C03 — Division yields the quotient correctly rounded to 18 fractional digits

`div_spec`, `checked_div_spec` and the integer-operand shapes: for all operands of the domain, all eight thread modes and every
build profile, `x / y` is the exact rational quotient rounded ONCE to 18 fractional digits (`C04.checkedDivRounded_spec` with
`n = 18`), returned with trailing fractional zeros removed (`normalize_spec`: exactly the trailing zeros, zero becomes `(0, 0)`);
a divisor equal to one returns the dividend unchanged, a zero dividend gives `0`; a zero divisor panics / yields `None`; the only
other failure is the overflow signal when the rounded quotient scaled by 10^18 does not fit an i128.
Relative to `C04.WideDiv` for the 256-bit path (discharged in `Props/C16.lean`).
-/

namespace Fpdec.Props.C03
open Fpdec Fpdec.Model

/-- `normalize` strips exactly the trailing zeros (18-digit input) -/
theorem normalize_spec (c : Int) : normalize c 18 = Spec.normalizeSpec 19 c 18 :=
  normalize_eq_normalizeSpec c 18 19 (by decide)

/-- what `Spec.div` does after the short cuts -/
def specDivTail (tm : Mode) (a : Int) (p : Nat) (b : Int) (q : Nat) : Spec.Exp :=
  match C04.specDivCore tm a p b q 18 with
  | .val c n => let (c, n) := Spec.normalizeSpec 19 c n; .val c n
  | .valOrOvf c n => let (c, n) := Spec.normalizeSpec 19 c n; .valOrOvf c n
  | e => e

theorem specDivCore_val18 (tm : Mode) (a : Int) (p : Nat) (b : Int) (q : Nat) (c : Int) (n : Nat) :
    (C04.specDivCore tm a p b q 18 = .val c n → n = 18) ∧ (C04.specDivCore tm a p b q 18 = .valOrOvf c n → n = 18) := by
  unfold C04.specDivCore
  rw [valFit_eq]
  constructor <;> intro h <;> (split at h <;> [skip; split at h]) <;> simp at h <;> omega

/-- `divCore` (kernel with n = 18, then normalize), for EVERY i128 dividend (`i128::MIN` included: an integer operand, `p = 0`);
    the side condition excludes `i128::MIN` with 18 fractional digits over `-1` — not a `Decimal` — where the dividend would not be
    scaled and `i128::MIN / -1` is evaluated (`C04.checkedDivRounded_min_neg_one`) -/
theorem divCore_spec_full (hw : C04.WideDiv) (prof : Profile) (tm : Mode) (a : Int) (p : Nat) (b : Int) (q : Nat)
    (ha : I128_MIN ≤ a ∧ a ≤ I128_MAX) (hb : I128_MIN ≤ b ∧ b ≤ I128_MAX) (hb0 : b ≠ 0) (hp : p ≤ 18) (hq : q ≤ 18)
    (hc : ¬ (a = I128_MIN ∧ b = -1 ∧ 18 + q ≤ p)) :
    Spec.allowedChecked (specDivTail tm a p b q) (outOptPair (divCore prof tm a p b q)) = true := by
  have hk := C04.checkedDivRounded_spec hw prof tm a p b q 18 ha hb hb0 hp hq (by omega) hc
  have hv := C04.specDivCore_valOvf tm a p b q 18
  unfold divCore specDivTail
  rw [max_nfrac]
  generalize C04.specDivCore tm a p b q 18 = e at hk hv ⊢
  generalize checkedDivRounded prof tm a p b q 18 = r at hk ⊢
  rcases r with (_ | c) | k
  · cases e <;> first | exact hv.elim | exact hk
  · -- a value against `val` / `valOrOvf`: it is the expected one, and `normalize` strips what `normalizeSpec` strips
    dsimp only [Outcome.bind_ok]
    rw [normalize_spec]
    cases e <;> first | exact hv.elim | exact (Bool.false_ne_true hk).elim | skip
    all_goals
      cases eq_of_beq hk
      exact allowedChecked_val_self ⟨_, _⟩
  · cases e <;> first | exact hv.elim | exact hk

theorem divCore_spec (hw : C04.WideDiv) (prof : Profile) (tm : Mode) (a : Int) (p : Nat) (b : Int) (q : Nat)
    (ha : I128_MIN < a ∧ a ≤ I128_MAX) (hb : I128_MIN ≤ b ∧ b ≤ I128_MAX) (hb0 : b ≠ 0) (hp : p ≤ 18) (hq : q ≤ 18) :
    Spec.allowedChecked (specDivTail tm a p b q) (outOptPair (divCore prof tm a p b q)) = true :=
  divCore_spec_full hw prof tm a p b q ⟨Int.le_of_lt ha.1, ha.2⟩ hb hb0 hp hq (fun h => by omega)

theorem specDivTail_valOvf (tm : Mode) (a : Int) (p : Nat) (b : Int) (q : Nat) : (specDivTail tm a p b q).ValOvf := by
  have := C04.specDivCore_valOvf tm a p b q 18
  unfold specDivTail
  generalize C04.specDivCore tm a p b q 18 = e at this ⊢
  cases e <;> trivial

/-- `checked_div` with its short cuts spelled as propositions -/
theorem checkedDiv_eq (prof : Profile) (tm : Mode) (x y : Dec) (hq : y.nfrac ≤ 18) :
    checkedDiv prof tm x y =
      if y.coeff = 0 then .ok none else if x.coeff = 0 then .ok (some Dec.ZERO)
      else if y.coeff = (10 : Int) ^ y.nfrac then .ok (some x) else divCore prof tm x.coeff x.nfrac y.coeff y.nfrac := by
  unfold checkedDiv
  simp only [eqOne_eq y hq, eqZero, Outcome.bind_ok, decide_eq_true_eq, Outcome.pure_eq]

theorem spec_div_eq (tm : Mode) (a : Int) (p : Nat) (b : Int) (q : Nat) :
    Spec.div tm a p b q =
      if b = 0 then .divzero else if a = 0 then .val 0 0 else if b = (10 : Int) ^ q then .val a p else specDivTail tm a p b q := by
  unfold Spec.div specDivTail C04.specDivCore
  simp only [isOne_eq, decide_eq_true_eq]
  cases Spec.valFit (Spec.specRoundQ tm (a * 10 ^ (18 + q)) (b * 10 ^ p)) 18 <;> rfl

theorem spec_div_valOvf (tm : Mode) (a : Int) (p : Nat) (b : Int) (q : Nat) (hb : b ≠ 0) : (Spec.div tm a p b q).ValOvf := by
  rw [spec_div_eq, if_neg hb]
  exact .ite trivial (.ite trivial (specDivTail_valOvf tm a p b q))

/-- `checked_div` on i128 coefficients: every operand shape is an instance (an integer operand is `Decimal::from(i)`, which may be
    `i128::MIN`); excluded is only `i128::MIN` with at least 18 more digits than the divisor `-1` -/
theorem checkedDiv_spec (hw : C04.WideDiv) (prof : Profile) (tm : Mode) (x y : Dec) (hx : DomI x) (hy : DomI y)
    (hc : ¬ (x.coeff = I128_MIN ∧ y.coeff = -1 ∧ 18 + y.nfrac ≤ x.nfrac)) :
    Spec.allowedChecked (Spec.div tm x.coeff x.nfrac y.coeff y.nfrac) (outOptPair (checkedDiv prof tm x y)) = true := by
  rw [checkedDiv_eq prof tm x y hy.2.2, spec_div_eq]
  refine allowedChecked_ite (fun _ => rfl) fun hy0 => ?_
  refine allowedChecked_ite (fun _ => rfl) fun _ => ?_
  refine allowedChecked_ite (fun _ => allowedChecked_val_self x) fun _ => ?_
  exact divCore_spec_full hw prof tm _ _ _ _ ⟨hx.1, hx.2.1⟩ ⟨hy.1, hy.2.1⟩ hy0 hx.2.2 hy.2.2 hc

/-! The integer forms and the Decimal forms on `Decimal::from(i)` differ only in how the zero / one tests are spelled: after those
tests both run the same kernel on `(i, 0)`.  This also covers `i = i128::MIN`, which `Decimal::from` accepts although it is not in
`Dom`. -/

/-- `Decimal::from(i).checked_div(y)` runs the body of `i.checked_div(y)` (`y ≠ 0`) -/
theorem checkedDiv_fromInt_left (prof : Profile) (tm : Mode) (i : Int) (y : Dec) (hy0 : y.coeff ≠ 0) :
    checkedDiv prof tm ⟨i, 0⟩ y = divIntDec prof tm i y := by
  unfold checkedDiv divIntDec
  simp only [eqZero, hy0, decide_false, Bool.false_eq_true, if_false]
  by_cases h0 : i = 0 <;> simp [h0]

/-- `x.checked_div(Decimal::from(i))` runs the body of `x.checked_div(i)` (`i ≠ 0`) -/
theorem checkedDiv_fromInt_right (prof : Profile) (tm : Mode) (x : Dec) (i : Int) (hi0 : i ≠ 0) :
    checkedDiv prof tm x ⟨i, 0⟩ = divDecInt prof tm x i := by
  unfold checkedDiv divDecInt
  rw [eqOne_fromInt]
  simp only [eqZero, hi0, decide_false, Bool.false_eq_true, if_false, Outcome.bind_ok]
  by_cases h0 : x.coeff = 0 <;> by_cases h1 : i = 1 <;> simp [h0, h1]

/-- `x.checked_div(y)`: `None` for a zero divisor or overflow, never a panic -/
theorem checked_div_spec (hw : C04.WideDiv) (prof : Profile) (tm : Mode) (x y : Dec) (hx : Dom x) (hy : Dom y) :
    Spec.allowedChecked (Spec.div tm x.coeff x.nfrac y.coeff y.nfrac) (outOptPair (checkedDiv prof tm x y)) = true :=
  checkedDiv_spec hw prof tm x y hx.domI hy.domI (fun h => absurd h.1 (Int.ne_of_gt hx.1))

/-- `x / y` is `x.checked_div(y)` read as an operator: a zero divisor panics with the division-by-zero panic, `None` otherwise
    becomes the overflow panic (all operands, modes, profiles) -/
theorem div_eq_checked (prof : Profile) (tm : Mode) (x y : Dec) :
    div prof tm x y = opOfChecked (eqZero y) (checkedDiv prof tm x y) := by
  unfold div checkedDiv opOfChecked
  cases hy : eqZero y
  · simp only [Bool.false_eq_true, if_false]
    cases hx : eqZero x
    · simp only [Bool.false_eq_true, if_false]
      cases eqOne y with
      | panic k => rfl
      | ok b =>
        cases b
        · simp only [Outcome.bind_ok, Bool.false_eq_true, if_false]
          cases divCore prof tm x.coeff x.nfrac y.coeff y.nfrac with
          | panic k => rfl
          | ok o => cases o <;> rfl
        · rfl
    · rfl
  · rfl

/-- `x / y` on two Decimals (all reference forms and `/=` forward to this body) -/
theorem div_spec (hw : C04.WideDiv) (prof : Profile) (tm : Mode) (x y : Dec) (hx : Dom x) (hy : Dom y) :
    Spec.allowedOp (Spec.div tm x.coeff x.nfrac y.coeff y.nfrac) (outPair (div prof tm x y)) = true := by
  rw [div_eq_checked]
  refine allowedOp_opOfChecked (fun hz => if_pos (of_decide_eq_true hz)) fun hz => ?_
  exact ⟨spec_div_valOvf tm _ _ _ _ ((eqZero_eq_false_iff y).mp hz), checked_div_spec hw prof tm x y hx hy⟩

/-- `Decimal / int` and `Decimal.checked_div(int)` after the zero-divisor test (`i ≠ 0`): same as with `Decimal::from(i)` -/
theorem div_dec_int_spec (hw : C04.WideDiv) (prof : Profile) (tm : Mode) (x : Dec) (i : Int) (hx : Dom x)
    (hi : I128_MIN ≤ i ∧ i ≤ I128_MAX) (hi0 : i ≠ 0) :
    Spec.allowedChecked (Spec.div tm x.coeff x.nfrac i 0) (outOptPair (divDecInt prof tm x i)) = true :=
  checkedDiv_fromInt_right prof tm x i hi0 ▸
    checkedDiv_spec hw prof tm x ⟨i, 0⟩ hx.domI (domI_fromInt hi) (fun h => absurd h.1 (Int.ne_of_gt hx.1))

/-- `int / Decimal` and `int.checked_div(Decimal)` after the zero-divisor test; `i` any value of the 9 integer types, `i128::MIN`
    included (its scaling by `10^18` always goes through the 256-bit path, so `i128::MIN / -1` is never evaluated: `None` / overflow panic) -/
theorem div_int_dec_spec (hw : C04.WideDiv) (prof : Profile) (tm : Mode) (i : Int) (y : Dec) (hy : Dom y)
    (hi : I128_MIN ≤ i ∧ i ≤ I128_MAX) (hy0 : y.coeff ≠ 0) :
    Spec.allowedChecked (Spec.div tm i 0 y.coeff y.nfrac) (outOptPair (divIntDec prof tm i y)) = true :=
  checkedDiv_fromInt_left prof tm i y hy0 ▸
    checkedDiv_spec hw prof tm ⟨i, 0⟩ y (domI_fromInt hi) hy.domI (fun h => absurd h.2.2 (by simp only; omega))

/-! ### non-vacuity -/
example : div Profile.dev .heven ⟨1, 0⟩ ⟨3, 0⟩ = .ok ⟨333333333333333333, 18⟩ := by decide +kernel
example : div Profile.dev .heven ⟨10, 1⟩ ⟨4, 0⟩ = .ok ⟨25, 2⟩ := by decide +kernel                      -- trailing zeros removed
example : div Profile.dev .heven ⟨1, 0⟩ ⟨0, 5⟩ = .panic .divzero ∧ checkedDiv Profile.dev .heven ⟨1, 0⟩ ⟨0, 5⟩ = .ok none := by
  decide
-- the dividend `i128::MIN` (an integer operand): the quotient `2^127` by `-1` does not fit — `None`, never the `i128::MIN / -1` panic
example : divIntDec Profile.dev .heven I128_MIN ⟨-1, 0⟩ = .ok none ∧
    Spec.allowedChecked (Spec.div .heven I128_MIN 0 (-1) 0) (outOptPair (divIntDec Profile.dev .heven I128_MIN ⟨-1, 0⟩)) = true := by
  decide
example : divIntDec Profile.release .heven I128_MIN ⟨-10000000000000000000, 0⟩ = .ok (some ⟨17014118346046923173168730371588410573, 18⟩) ∧
    Spec.allowedChecked (Spec.div .heven I128_MIN 0 (-10000000000000000000) 0)
      (outOptPair (divIntDec Profile.release .heven I128_MIN ⟨-10000000000000000000, 0⟩)) = true := by
  decide
example : divIntDec Profile.dev .heven I128_MIN ⟨I128_MIN + 1, 0⟩ = .ok (some ⟨1, 0⟩) := by decide +kernel

/-! ### translated kernels
The Lean definitions `Gen.K.*` are regenerated from the Rust source on every run by `tools/fpkernels.py` (expression-level
translation).  These theorems tie them to the hand-written model the property theorems above are about: a change of the Rust
kernel that changes its translation breaks them. -/
theorem kernel_normalize (prof : Profile) (c : Int) (n : Nat) (hn : n < 256) :
    Gen.K.normalize prof c n = .ok (normalize c n) := Kernels.normalize_eq prof c n hn

/-! ### algebraic laws: `checked_div` against `/` -/

/-- `checked_div` repeats the zero-divisor test: it is its own checked form behind that test -/
theorem checkedDiv_eq_checkedOfChecked (prof : Profile) (tm : Mode) (x y : Dec) :
    checkedDiv prof tm x y = checkedOfChecked (eqZero y) (checkedDiv prof tm x y) := by
  cases hy : eqZero y
  · rfl
  · unfold checkedDiv
    rw [hy]
    rfl

theorem checked_div_no_panic (hw : C04.WideDiv) (prof : Profile) (tm : Mode) (x y : Dec) (hx : Dom x) (hy : Dom y) :
    ∃ o, checkedDiv prof tm x y = .ok o := by
  by_cases hy0 : y.coeff = 0
  · exact ⟨none, by rw [checkedDiv_eq prof tm x y hy.2.2, if_pos hy0]⟩
  · exact ok_of_allowedChecked (spec_div_valOvf tm _ _ _ _ hy0) (checked_div_spec hw prof tm x y hx hy)

/-- `Some(r)` exactly when `x / y` returns `r` (no hypothesis) -/
theorem checked_div_some_iff (prof : Profile) (tm : Mode) (x y r : Dec) :
    checkedDiv prof tm x y = .ok (some r) ↔ div prof tm x y = .ok r := by
  rw [checkedDiv_eq_checkedOfChecked, div_eq_checked]
  exact checked_some_iff_op_ok _ _ _

/-- `None` exactly when `x / y` panics — with the division-by-zero panic or the overflow panic -/
theorem checked_div_none_iff (hw : C04.WideDiv) (prof : Profile) (tm : Mode) (x y : Dec) (hx : Dom x) (hy : Dom y) :
    checkedDiv prof tm x y = .ok none ↔ (div prof tm x y = .panic .divzero ∨ div prof tm x y = .panic .overflow) := by
  rw [checkedDiv_eq_checkedOfChecked, div_eq_checked]
  exact checked_none_iff_op_panic _ _ fun _ => checked_div_no_panic hw prof tm x y hx hy

/-- the division-by-zero panic exactly for a zero divisor … -/
theorem div_divzero_iff (hw : C04.WideDiv) (prof : Profile) (tm : Mode) (x y : Dec) (hx : Dom x) (hy : Dom y) :
    div prof tm x y = .panic .divzero ↔ y.coeff = 0 := by
  rw [div_eq_checked, op_divzero_iff _ _ (fun _ => checked_div_no_panic hw prof tm x y hx hy)]
  exact decide_eq_true_iff

/-- … and no other panic than these two -/
theorem div_panic_kind (hw : C04.WideDiv) (prof : Profile) (tm : Mode) (x y : Dec) (k : PanicKind) (hx : Dom x) (hy : Dom y)
    (h : div prof tm x y = .panic k) : k = .divzero ∨ k = .overflow := by
  rw [div_eq_checked] at h
  exact op_panic_kind _ _ k (fun _ => checked_div_no_panic hw prof tm x y hx hy) h

/-- the integer shapes share one body between operator (`opOfChecked z body`) and checked variant (`checkedOfChecked z body`;
    `C04.kernel_decimal_div_int` … tie both to the source), and the body does not panic: `Decimal / int`, `i` any i128 value … -/
theorem checked_div_dec_int_none_iff (hw : C04.WideDiv) (prof : Profile) (tm : Mode) (x : Dec) (i : Int) (hx : Dom x)
    (hi : I128_MIN ≤ i ∧ i ≤ I128_MAX) :
    checkedOfChecked (decide (i = 0)) (divDecInt prof tm x i) = .ok none ↔
      (opOfChecked (decide (i = 0)) (divDecInt prof tm x i) = .panic .divzero ∨
        opOfChecked (decide (i = 0)) (divDecInt prof tm x i) = .panic .overflow) :=
  checked_none_iff_op_panic _ _ fun hi0 =>
    have hi0' : i ≠ 0 := of_decide_eq_false hi0
    ok_of_allowedChecked (spec_div_valOvf tm _ _ _ _ hi0') (div_dec_int_spec hw prof tm x i hx hi hi0')

/-- … and `int / Decimal` (`i128::MIN` included); `Some(r)` exactly when the operator returns `r` is `checked_some_iff_op_ok` -/
theorem checked_div_int_dec_none_iff (hw : C04.WideDiv) (prof : Profile) (tm : Mode) (i : Int) (y : Dec) (hy : Dom y)
    (hi : I128_MIN ≤ i ∧ i ≤ I128_MAX) :
    checkedOfChecked (eqZero y) (divIntDec prof tm i y) = .ok none ↔
      (opOfChecked (eqZero y) (divIntDec prof tm i y) = .panic .divzero ∨
        opOfChecked (eqZero y) (divIntDec prof tm i y) = .panic .overflow) :=
  checked_none_iff_op_panic _ _ fun hy0 =>
    have hy0' := (eqZero_eq_false_iff y).mp hy0
    ok_of_allowedChecked (spec_div_valOvf tm _ _ _ _ hy0') (div_int_dec_spec hw prof tm i y hy hi hy0')

example : checkedDiv Profile.dev .heven ⟨10, 1⟩ ⟨4, 0⟩ = .ok (some ⟨25, 2⟩) ∧ div Profile.dev .heven ⟨10, 1⟩ ⟨4, 0⟩ = .ok ⟨25, 2⟩ ∧
    checkedDiv Profile.dev .heven ⟨1, 0⟩ ⟨0, 5⟩ = .ok none ∧ div Profile.dev .heven ⟨1, 0⟩ ⟨0, 5⟩ = .panic .divzero ∧
    checkedDiv Profile.release .heven Dec.MAX ⟨5, 1⟩ = .ok none ∧ div Profile.release .heven Dec.MAX ⟨5, 1⟩ = .panic .overflow := by
  decide

/-! ### algebraic laws: one, zero, `x / x` -/

/-- `x / 1`, for every representation of one as divisor: the dividend UNCHANGED (value and representation) — except that every zero
    dividend is returned as `Decimal::ZERO` (the zero test comes first); every `x` -/
theorem div_one_right (prof : Profile) (tm : Mode) (x y : Dec) (hq : y.nfrac ≤ 18) (hy : y.coeff = (10 : Int) ^ y.nfrac) :
    div prof tm x y = .ok (if x.coeff = 0 then Dec.ZERO else x) := by
  have hy0 : y.coeff ≠ 0 := hy ▸ Int.ne_of_gt (pow10_pos _)
  rw [div_eq_checked, checkedDiv_eq prof tm x y hq, if_neg hy0, if_pos hy, (eqZero_eq_false_iff y).mpr hy0]
  split <;> rfl

theorem div_by_ONE (prof : Profile) (tm : Mode) (x : Dec) : div prof tm x Dec.ONE = .ok (if x.coeff = 0 then Dec.ZERO else x) :=
  div_one_right prof tm x Dec.ONE (by decide) (by decide)

/-- `0 / y = Decimal::ZERO` for every representation of zero and every non-zero `y` (nothing else is evaluated);
    with a zero divisor the division-by-zero panic wins -/
theorem zero_div (prof : Profile) (tm : Mode) (x y : Dec) (hx : x.coeff = 0) (hy : y.coeff ≠ 0) :
    div prof tm x y = .ok Dec.ZERO := by
  unfold div
  simp [eqZero, hx, hy]

theorem div_by_zero (prof : Profile) (tm : Mode) (x y : Dec) (hy : y.coeff = 0) : div prof tm x y = .panic .divzero := by
  unfold div
  simp [eqZero, hy]

/-- `x / x` for a non-zero `x` of the domain: `Decimal::ONE` — in every mode and profile, through the 256-bit path for large
    coefficients — except that a representation of one is returned unchanged by the divisor-equals-one short cut (`1.0 / 1.0 = 1.0`) -/
theorem div_self_one (hw : C04.WideDiv) (prof : Profile) (tm : Mode) (x : Dec) (hx : Dom x) (h0 : x.coeff ≠ 0) :
    div prof tm x x = .ok (if x.coeff = (10 : Int) ^ x.nfrac then x else Dec.ONE) := by
  by_cases hone : x.coeff = (10 : Int) ^ x.nfrac
  · rw [div_one_right prof tm x x hx.2.2 hone, if_neg h0, if_pos hone]
  · have hs := div_spec hw prof tm x x hx hx
    have e : Spec.div tm x.coeff x.nfrac x.coeff x.nfrac = .val 1 0 := by
      unfold Spec.div
      simp only [h0, if_false, isOne_eq, hone, decide_false, Bool.false_eq_true]
      have e1 : x.coeff * (10 : Int) ^ (18 + x.nfrac) = (10 : Int) ^ 18 * (x.coeff * (10 : Int) ^ x.nfrac) := by
        rw [Int.pow_add, Int.mul_left_comm]
      have hd : x.coeff * (10 : Int) ^ x.nfrac ≠ 0 := Int.mul_ne_zero h0 (Int.ne_of_gt (pow10_pos _))
      rw [e1, specRoundQ_exact_mul tm _ _ hd]
      decide
    rw [e] at hs
    simp only [hone, if_false]
    exact ok_of_allowed_val hs

/-- the value of `x / x` is one in both cases: the result is a representation of one -/
theorem div_self_value (hw : C04.WideDiv) (prof : Profile) (tm : Mode) (x : Dec) (hx : Dom x) (h0 : x.coeff ≠ 0) :
    ∃ r, div prof tm x x = .ok r ∧ r.coeff = (10 : Int) ^ r.nfrac := by
  rw [div_self_one hw prof tm x hx h0]
  by_cases hone : x.coeff = (10 : Int) ^ x.nfrac
  · exact ⟨x, by simp [hone], hone⟩
  · exact ⟨Dec.ONE, by simp [hone], by decide⟩

example : div Profile.dev .up ⟨-25, 1⟩ Dec.ONE = .ok ⟨-25, 1⟩ ∧ div Profile.dev .up ⟨-2500, 3⟩ ⟨100, 2⟩ = .ok ⟨-2500, 3⟩ ∧
    div Profile.dev .up ⟨0, 3⟩ Dec.ONE = .ok ⟨0, 0⟩ ∧ div Profile.release .floor ⟨0, 7⟩ ⟨-3, 1⟩ = .ok ⟨0, 0⟩ ∧
    div Profile.release .floor ⟨0, 7⟩ ⟨0, 1⟩ = .panic .divzero := by decide +kernel
example : div Profile.dev .heven ⟨-25, 1⟩ ⟨-25, 1⟩ = .ok ⟨1, 0⟩ ∧ div Profile.release .r05up Dec.MAX Dec.MAX = .ok ⟨1, 0⟩ ∧
    div Profile.dev .ceil ⟨I128_MIN + 1, 18⟩ ⟨I128_MIN + 1, 18⟩ = .ok ⟨1, 0⟩ ∧
    div Profile.dev .heven ⟨100, 2⟩ ⟨100, 2⟩ = .ok ⟨100, 2⟩ := by decide +kernel

end Fpdec.Props.C03
