import Fpdec.Kernels.Lib
import Fpdec.Kernels.Unary
import Fpdec.Kernels.Cmp
import Fpdec.Lemmas.Unary
import Fpdec.Props.C15_Sites

/-!
# C15 — floor, ceil, trunc, fract, abs, neg, magnitude and sign predicates are exact

* `floor_spec`, `ceil_spec`, `trunc_spec`, `fract_spec`, `neg_spec`, `abs_spec`: the unary operations return the exact values
  (`Spec.floor` …) for every Decimal of the domain and every profile; `value_properties`: those specs satisfy the statement's
  inequalities — `floor(d) ≤ d < floor(d)+1`, `ceil(d)-1 < d ≤ ceil(d)`, `trunc` towards zero, `trunc + fract = d` with `fract`
  carrying d's sign and scale.
* `magnitude_spec`: `magnitude()` is `⌊log10 |d|⌋` (position of the most significant digit) and `0` for every zero value; it rests on
  `i128_magnitude_spec`: the branch-free log10 bit trick with the four magic constants (read from the source) is `⌊log10⌋` for every
  128-bit value — `lessThan5` from the shape of its constants (`m·2^17 − 10^k`), the reductions by arithmetic.
* `predicates_spec`: `eq_zero`, `eq_one`, `is_negative`, `is_positive` reflect the value irrespective of the representation.
num-traits: `Zero/One/Signed/Num` for `Decimal` are one-line forwarders to these functions (`is_zero = eq_zero`, `abs`, `signum =
from(coeff.signum())`, `abs_sub = if self <= other {0} else {self - other}`, `from_str_radix` = `from_str` for radix 10); they have
no model functions of their own: `kernel_nt_*` tie their translations to the functions they forward to, and the correspondence run
exercises them with the feature enabled against the same model functions.
-/

namespace Fpdec.Props.C15
open Fpdec Fpdec.Model

theorem floor_spec (prof : Profile) (d : Dec) (hd : Dom d) :
    floor prof d = .ok ⟨(Spec.floor d.coeff d.nfrac).1, 0⟩ := Fpdec.floor_spec prof d hd
theorem ceil_spec (prof : Profile) (d : Dec) (hd : Dom d) :
    ceil prof d = .ok ⟨(Spec.ceil d.coeff d.nfrac).1, 0⟩ := Fpdec.ceil_spec prof d hd
theorem trunc_spec (d : Dec) (hd : Dom d) : trunc d = .ok ⟨(Spec.trunc d.coeff d.nfrac).1, 0⟩ := Fpdec.trunc_spec d hd
theorem fract_spec (d : Dec) (hd : Dom d) :
    fract d = .ok ⟨(Spec.fract d.coeff d.nfrac).1, (Spec.fract d.coeff d.nfrac).2⟩ := Fpdec.fract_spec d hd
theorem neg_spec (prof : Profile) (d : Dec) (hd : Dom d) : neg prof d = .ok ⟨-d.coeff, d.nfrac⟩ := Fpdec.neg_spec prof d hd
theorem abs_spec (prof : Profile) (d : Dec) (hd : Dom d) : abs prof d = .ok ⟨d.coeff.natAbs, d.nfrac⟩ :=
  Fpdec.abs_spec prof d hd

theorem value_properties (a : Int) (p : Nat) :
    (Spec.floor a p).1 * (10 : Int) ^ p ≤ a ∧ a < ((Spec.floor a p).1 + 1) * (10 : Int) ^ p ∧
    ((Spec.ceil a p).1 - 1) * (10 : Int) ^ p < a ∧ a ≤ (Spec.ceil a p).1 * (10 : Int) ^ p ∧
    (Spec.trunc a p).1 * (10 : Int) ^ p + a.tmod ((10 : Int) ^ p) = a ∧
    ((Spec.trunc a p).1.natAbs * 10 ^ p ≤ a.natAbs) ∧
    (a.tmod ((10 : Int) ^ p) = 0 ∨ (0 < a.tmod ((10 : Int) ^ p) ∧ 0 < a) ∨ (a.tmod ((10 : Int) ^ p) < 0 ∧ a < 0)) := by
  have ht : (0 : Int) < (10 : Int) ^ p := pow10_pos p
  have hnat : (a.tdiv ((10 : Int) ^ p)).natAbs * 10 ^ p ≤ a.natAbs := by
    rw [Int.natAbs_tdiv, Int.natAbs_pow]
    exact Nat.div_mul_le_self _ _
  unfold Spec.floor Spec.ceil Spec.trunc
  dsimp only
  generalize (10 : Int) ^ p = t at ht hnat ⊢
  have hne := Int.ne_of_gt ht
  -- the ceiling is the floor of `-a`, negated
  have c1 := Int.lt_ediv_add_one_mul_self (-a) ht
  have c2 := Int.ediv_mul_le (-a) hne
  refine ⟨Int.ediv_mul_le a hne, Int.lt_ediv_add_one_mul_self a ht, ?_, ?_, ?_, hnat, tmod_sign a t⟩
  · rw [show -(-a / t) - 1 = -(-a / t + 1) by omega, Int.neg_mul]; omega
  · rw [Int.neg_mul]; omega
  · exact (Int.add_comm _ _).trans (Int.tmod_add_tdiv_mul a t)

theorem i128_magnitude_spec (i : Int) (hi : I128_MIN ≤ i ∧ i ≤ I128_MAX) :
    i128Magnitude i = if i = 0 then 0 else Spec.ilog10 64 i.natAbs := i128Magnitude_spec i hi

theorem ilog10_is_floor_log10 (n : Nat) (h0 : 0 < n) (h : n < 10 ^ 39) :
    10 ^ (Spec.ilog10 64 n) ≤ n ∧ n < 10 ^ (Spec.ilog10 64 n + 1) :=
  ilog10_isLog 64 n h0 (Nat.lt_of_lt_of_le h (Nat.pow_le_pow_right (by decide) (by decide)))

theorem magnitude_spec (prof : Profile) (d : Dec) (hd : Dom d) :
    magnitude prof d = .ok (Spec.magnitude d.coeff d.nfrac) := Fpdec.magnitude_spec prof d hd

theorem predicates_spec (d : Dec) (hd : Dom d) :
    eqZero d = decide (d.coeff = 0) ∧ eqOne d = .ok (decide (d.coeff = (10 : Int) ^ d.nfrac)) ∧
    isNegative d = decide (d.coeff < 0) ∧ isPositive d = decide (d.coeff > 0) := Fpdec.predicates_spec d hd

/-! ### non-vacuity -/
example : magnitude Profile.dev ⟨0, 3⟩ = .ok 0 ∧ magnitude Profile.dev ⟨123, 5⟩ = .ok (-3) := by decide +kernel
example : floor Profile.dev ⟨-25, 1⟩ = .ok ⟨-3, 0⟩ ∧ ceil Profile.dev ⟨-25, 1⟩ = .ok ⟨-2, 0⟩ ∧ ceil Profile.dev ⟨0, 2⟩ = .ok ⟨0, 0⟩ := by
  decide

/-! ### translated kernels
The Lean definitions `Gen.K.*` are regenerated from the Rust source on every run by `tools/fpkernels.py` (expression-level
translation).  These theorems tie them to the hand-written model the property theorems above are about: a change of the Rust
kernel that changes its translation breaks them. -/
theorem kernel_div_floor (prof : Profile) (x y : Int) : Gen.K.div_floor prof x y = divFloorI128 prof x y :=
  Kernels.div_floor_eq prof x y
theorem kernel_div_ceil (prof : Profile) (x y : Int) : Gen.K.div_ceil prof x y = divCeilI128 prof x y :=
  Kernels.div_ceil_eq prof x y
/-- the magnitude kernel: no `u32` addition in it can overflow, in any profile -/
theorem kernel_log10_u128 (prof : Profile) (val : Nat) (h : val < 340282366920938463463374607431768211456) :
    Gen.K.u128 prof val = .ok (log10U128 val) := Kernels.log10_u128_eq prof val h

/-- the unary operations of unops.rs, as translated on this run -/
theorem kernel_decimal_neg (prof : Profile) (d : Dec) : Gen.K.decimal_neg prof d = neg prof d := Kernels.decimal_neg_eq prof d
theorem kernel_decimal_ref_neg (prof : Profile) (d : Dec) : Gen.K.decimal_ref_neg prof d = neg prof d :=
  Kernels.decimal_ref_neg_eq prof d
theorem kernel_decimal_abs (prof : Profile) (d : Dec) : Gen.K.decimal_abs prof d = abs prof d := Kernels.decimal_abs_eq prof d
theorem kernel_decimal_floor (prof : Profile) (d : Dec) : Gen.K.decimal_floor prof d = floor prof d :=
  Kernels.decimal_floor_eq prof d
theorem kernel_decimal_ceil (prof : Profile) (d : Dec) : Gen.K.decimal_ceil prof d = ceil prof d := Kernels.decimal_ceil_eq prof d
theorem kernel_decimal_trunc (prof : Profile) (d : Dec) : Gen.K.decimal_trunc prof d = trunc d := Kernels.decimal_trunc_eq prof d
theorem kernel_decimal_fract (prof : Profile) (d : Dec) : Gen.K.decimal_fract prof d = fract d := Kernels.decimal_fract_eq prof d

/-- `i128_magnitude`, `Decimal::magnitude`, `Decimal::new_raw` and the sign / zero / one predicates, as translated on this run -/
theorem kernel_i128_magnitude (prof : Profile) (i : Int) (h : I128_MIN ≤ i ∧ i ≤ I128_MAX) :
    Gen.K.i128_magnitude prof i = .ok (i128Magnitude i) := Kernels.i128_magnitude_eq prof i h
theorem kernel_decimal_magnitude (prof : Profile) (d : Dec) (h : I128_MIN ≤ d.coeff ∧ d.coeff ≤ I128_MAX) :
    Gen.K.decimal_magnitude prof d = magnitude prof d := Kernels.decimal_magnitude_eq prof d h
theorem kernel_decimal_new_raw (prof : Profile) (c : Int) (n : Nat) :
    Gen.K.decimal_new_raw prof c n = (if prof.da = true ∧ ¬ n ≤ 18 then .panic .assert else .ok ⟨c, n⟩) :=
  Kernels.decimal_new_raw_eq prof c n
theorem kernel_decimal_eq_zero (prof : Profile) (d : Dec) : Gen.K.decimal_eq_zero prof d = .ok (eqZero d) :=
  Kernels.decimal_eq_zero_eq prof d
theorem kernel_decimal_eq_one (prof : Profile) (d : Dec) : Gen.K.decimal_eq_one prof d = eqOne d :=
  Kernels.decimal_eq_one_eq prof d
theorem kernel_decimal_is_negative (prof : Profile) (d : Dec) : Gen.K.decimal_is_negative prof d = .ok (isNegative d) :=
  Kernels.decimal_is_negative_eq prof d
theorem kernel_decimal_is_positive (prof : Profile) (d : Dec) : Gen.K.decimal_is_positive prof d = .ok (isPositive d) :=
  Kernels.decimal_is_positive_eq prof d

/-- the `num-traits` forwarders (`Zero`, `One`, `Num::from_str_radix`, `Signed`; feature `num-traits`), as translated on this run: each is
    the inherent operation it forwards to -/
theorem kernel_nt_zero (prof : Profile) : Gen.K.nt_zero prof = .ok Dec.ZERO := Kernels.nt_zero_eq prof
theorem kernel_nt_one (prof : Profile) : Gen.K.nt_one prof = .ok Dec.ONE := Kernels.nt_one_eq prof
theorem kernel_nt_is_zero (prof : Profile) (d : Dec) : Gen.K.nt_is_zero prof d = .ok (eqZero d) := Kernels.nt_is_zero_eq prof d
theorem kernel_nt_is_one (prof : Profile) (d : Dec) : Gen.K.nt_is_one prof d = eqOne d := Kernels.nt_is_one_eq prof d
theorem kernel_nt_abs (prof : Profile) (d : Dec) : Gen.K.nt_abs prof d = abs prof d := Kernels.nt_abs_eq prof d
theorem kernel_nt_signum (prof : Profile) (d : Dec) : Gen.K.nt_signum prof d = .ok (fromInt (Int.sign d.coeff)) :=
  Kernels.nt_signum_eq prof d
theorem kernel_nt_is_positive (prof : Profile) (d : Dec) : Gen.K.nt_is_positive prof d = .ok (isPositive d) :=
  Kernels.nt_is_positive_eq prof d
theorem kernel_nt_is_negative (prof : Profile) (d : Dec) : Gen.K.nt_is_negative prof d = .ok (isNegative d) :=
  Kernels.nt_is_negative_eq prof d
theorem kernel_nt_from_str_radix (prof : Profile) (s : List Nat) (radix : Nat) :
    Gen.K.nt_from_str_radix prof s radix = (if radix ≠ 10 then .ok (.error .invalid) else fromStr prof s) :=
  Kernels.nt_from_str_radix_eq prof s radix
theorem kernel_nt_abs_sub (prof : Profile) (x y : Dec) (hp : x.nfrac < 256) (hq : y.nfrac < 256) :
    Gen.K.nt_abs_sub prof x y =
      (if partialCmp x y = some .lt ∨ partialCmp x y = some .eq then .ok Dec.ZERO else addSub true x y) :=
  Kernels.nt_abs_sub_eq prof x y hp hq

/-- the associated constants of `Decimal` as extracted from src/lib.rs on this run are the model's (`ZERO`/`ONE` are what the
    translated kernels return for `Self::ZERO` / `Self::ONE`; `MIN ..= MAX` with at most `DELTA`'s digits is the domain `Dom`) -/
theorem decimal_consts :
    Gen.DECIMAL_CONSTS =
      [("ZERO", Dec.ZERO.coeff, Dec.ZERO.nfrac), ("ONE", Dec.ONE.coeff, Dec.ONE.nfrac),
       ("NEG_ONE", Dec.NEG_ONE.coeff, Dec.NEG_ONE.nfrac), ("TWO", Dec.TWO.coeff, Dec.TWO.nfrac),
       ("TEN", Dec.TEN.coeff, Dec.TEN.nfrac), ("MAX", Dec.MAX.coeff, Dec.MAX.nfrac), ("MIN", Dec.MIN.coeff, Dec.MIN.nfrac),
       ("DELTA", Dec.DELTA.coeff, Dec.DELTA.nfrac)] := Kernels.decimal_consts_tie
theorem dom_is_min_max (d : Dec) :
    (Dec.MIN.coeff ≤ d.coeff ∧ d.coeff ≤ Dec.MAX.coeff ∧ d.nfrac ≤ Dec.DELTA.nfrac) ↔ Dom d := Kernels.dom_is_min_max d

/-! ### algebraic laws -/

/-- `-(-x) = x` on the domain (no negation overflows there) -/
theorem neg_involutive (prof : Profile) (x : Dec) (hx : Dom x) : (neg prof x >>= neg prof) = .ok x := by
  rw [neg_spec prof x hx, Outcome.bind_ok, neg_spec prof _ hx.neg, Int.neg_neg]

theorem abs_idempotent (prof : Profile) (x : Dec) (hx : Dom x) : (abs prof x >>= abs prof) = abs prof x := by
  rw [abs_spec prof x hx, Outcome.bind_ok, abs_spec prof _ hx.abs, Int.natAbs_natCast]

theorem abs_neg (prof : Profile) (x : Dec) (hx : Dom x) : (neg prof x >>= abs prof) = abs prof x := by
  rw [neg_spec prof x hx, Outcome.bind_ok, abs_spec prof _ hx.neg, abs_spec prof x hx, Int.natAbs_neg]

/-- `floor`, `ceil` and `trunc` are idempotent for every operand, outside the domain too: a result has no fractional digits and is
    returned as it is -/
theorem floor_idempotent (prof : Profile) (x : Dec) : (floor prof x >>= floor prof) = floor prof x :=
  divPow_idem (divFloorI128 prof) x

theorem ceil_idempotent (prof : Profile) (x : Dec) : (ceil prof x >>= ceil prof) = ceil prof x :=
  divPow_idem (divCeilI128 prof) x

theorem trunc_idempotent (x : Dec) : (trunc x >>= trunc) = trunc x := divPow_idem divI128 x

theorem ceil_eq_neg_floor_neg (prof : Profile) (x : Dec) (hx : Dom x) :
    ceil prof x = (neg prof x >>= floor prof >>= neg prof) := by
  rw [ceil_spec prof x hx, neg_spec prof x hx, Outcome.bind_ok, floor_spec prof _ hx.neg, Outcome.bind_ok]
  simp only [Spec.ceil, Spec.floor]
  rw [neg_spec prof _ hx.neg.floor]

theorem floor_eq_neg_ceil_neg (prof : Profile) (x : Dec) (hx : Dom x) :
    floor prof x = (neg prof x >>= ceil prof >>= neg prof) := by
  rw [floor_spec prof x hx, neg_spec prof x hx, Outcome.bind_ok, ceil_spec prof _ hx.neg, Outcome.bind_ok]
  simp only [Spec.ceil, Spec.floor, Int.neg_neg]
  rw [neg_spec prof _ hx.floor.neg, Int.neg_neg]

/-- `trunc x + fract x = x`: the sum (model of `+`, C01) is exact, never overflows and has `x`'s representation -/
theorem trunc_add_fract (x : Dec) (hx : Dom x) :
    (trunc x >>= fun t => fract x >>= fun f => addSub false t f) = .ok x := by
  rw [trunc_spec x hx, fract_spec x hx]
  obtain ⟨-, -, -, -, e1, e2, -⟩ := value_properties x.coeff x.nfrac
  -- the truncated part scaled back is no larger in absolute value than `x`'s coefficient
  have hq := (hx.mono (c := (Spec.trunc x.coeff x.nfrac).1 * (10 : Int) ^ x.nfrac)
    (by rw [Int.natAbs_mul, Int.natAbs_pow]; exact e2) hx.2.2).fits
  have hf := hx.fits
  have hn38 := hx.nfrac_le_38
  obtain ⟨c, n⟩ := x
  simp only [Outcome.bind_ok, Spec.trunc, Spec.fract] at e1 hq hf hn38 ⊢
  by_cases hn : n = 0
  · subst hn
    simp [addSub, checkedI128_some hf, coeffOrPanic]
  · simp only [hn, if_false, addSub, Nat.compare_eq_lt.mpr (Nat.pos_of_ne_zero hn), Nat.sub_zero, Bool.false_eq_true]
    rw [mulPowTen_eq _ n hn38, checkedI128_some hq]
    simp only [Outcome.ofOption_some, Outcome.bind_ok, e1, checkedI128_some hf, coeffOrPanic, Outcome.pure_eq]

example : (neg Profile.dev ⟨-25, 1⟩ >>= neg Profile.dev) = .ok ⟨-25, 1⟩ ∧
    (abs Profile.dev ⟨-25, 1⟩ >>= abs Profile.dev) = .ok ⟨25, 1⟩ ∧ (neg Profile.dev ⟨25, 1⟩ >>= abs Profile.dev) = .ok ⟨25, 1⟩ := by
  decide
-- outside the domain the involution fails: `-i128::MIN` panics with overflow checks and wraps to itself without
example : (neg Profile.dev ⟨I128_MIN, 0⟩ >>= neg Profile.dev) = .panic .arith ∧
    (neg Profile.release ⟨I128_MIN, 0⟩ >>= neg Profile.release) = .ok ⟨I128_MIN, 0⟩ := by decide +kernel
example : (floor Profile.dev ⟨-25, 1⟩ >>= floor Profile.dev) = .ok ⟨-3, 0⟩ ∧ (ceil Profile.dev ⟨-25, 1⟩ >>= ceil Profile.dev) = .ok ⟨-2, 0⟩ ∧
    (trunc ⟨-25, 1⟩ >>= trunc) = .ok ⟨-2, 0⟩ ∧ (floor Profile.dev ⟨1, 39⟩ >>= floor Profile.dev) = .panic .index := by decide +kernel
example : ceil Profile.release ⟨2501, 3⟩ = .ok ⟨3, 0⟩ ∧
    (neg Profile.release ⟨2501, 3⟩ >>= floor Profile.release >>= neg Profile.release) = .ok ⟨3, 0⟩ ∧
    floor Profile.release ⟨-2501, 3⟩ = .ok ⟨-3, 0⟩ ∧
    (neg Profile.release ⟨-2501, 3⟩ >>= ceil Profile.release >>= neg Profile.release) = .ok ⟨-3, 0⟩ := by decide +kernel
example : trunc ⟨-2575, 2⟩ = .ok ⟨-25, 0⟩ ∧ fract ⟨-2575, 2⟩ = .ok ⟨-75, 2⟩ ∧ addSub false ⟨-25, 0⟩ ⟨-75, 2⟩ = .ok ⟨-2575, 2⟩ := by decide +kernel

end Fpdec.Props.C15
