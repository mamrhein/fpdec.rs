import Fpdec.Kernels.Lib
import Fpdec.Props.C05
import Fpdec.Props.C06
import Fpdec.Props.C07
import Fpdec.Props.C09
import Fpdec.Props.C11
import Fpdec.Props.C12
import Fpdec.Props.C15
import Fpdec.Props.C16
import Fpdec.Props.C17
import Fpdec.Props.C20_Sites

/-!
# C20 — Results do not depend on the build profile; overflow is never silent

The model carries the two rustc switches that change what plain arithmetic does (`Profile.oc` = overflow-checks, `Profile.da` =
debug-assertions): a plain operator wraps or panics, a `debug_assert!` exists or not.  Three groups of operations:

1. **No profile parameter at all** (`+ - += -=`, `checked_add/sub`, `Decimal * int`, `checked_mul(int)`, `%`, `checked_rem`, `trunc`,
   `fract`, all comparisons, integer conversions): every arithmetic site of their model is `checked_*` (or `/`, `%`, which behave
   the same in every profile).  The source has plain operators besides (the `u8` differences of digit counts in `+ -` and `%`,
   `shift -= 1` in `%`), each behind a comparison; the kernel ties show that they cannot overflow.  That the other sites are still
   `checked_*` in the source is what the site ties (`tie_sites_*`) re-check on every run — `checked_add → +` breaks the tie even
   though no dev-profile run could observe it.
2. **Equal to a profile-free value** (`floor ceil neg abs magnitude`, `to_string`, `Display`, `Debug`, `f64/f32::from`,
   `as_integer_ratio`, `Hash`, `i128_div_rounded`): `*_profile_indep` — immediate from the `∀ prof` equalities of C05 … C15.
3. **Characterised by a deterministic expectation** (`round`, `checked_round`, `*`, `/`, `mul_rounded`, `div_rounded`, `quantize`,
   `from_str`): `*_same_obs` — for any two profiles both outcomes satisfy the same `Spec.Exp`; unless that expectation is the
   boundary case `valOrOvf`/`any` (exact result coefficient `-2^127`, outside the Decimal domain) it determines "same value, or both
   panic" / "same `Option`".  PARTIAL at exactly that boundary.
Not expressible in the model (exercised by the correspondence run, which builds the driver in up to 8 profile combinations plus the
`packed` feature and diffs the outputs line by line): opt-level, `repr(packed)`.
-/

namespace Fpdec.Props.C20
open Fpdec Fpdec.Model
open C17 (Determined SameObs determined determined_checked)

theorem kernel_profile_indep (p1 p2 : Profile) (tm : Mode) (mode : Option Mode) (n d : Int)
    (hn : I128_MIN ≤ n ∧ n ≤ I128_MAX) (hd : I128_MIN ≤ d ∧ d ≤ I128_MAX) (hd0 : d ≠ 0) :
    i128DivRounded p1 tm n d mode = i128DivRounded p2 tm n d mode := by
  by_cases hc : n = I128_MIN ∧ d = -1
  · -- `i128::MIN / -1`: the same panic in every profile
    obtain ⟨h1, h2⟩ := hc
    subst h1; subst h2
    rw [C05.kernel_min_neg_one p1 tm mode, C05.kernel_min_neg_one p2 tm mode]
  · rw [C05.kernel_spec_full p1 tm mode n d hn hd hd0 hc, C05.kernel_spec_full p2 tm mode n d hn hd hd0 hc]

theorem unary_profile_indep (p1 p2 : Profile) (d : Dec) (hd : Dom d) :
    floor p1 d = floor p2 d ∧ ceil p1 d = ceil p2 d ∧ neg p1 d = neg p2 d ∧ abs p1 d = abs p2 d ∧
    magnitude p1 d = magnitude p2 d := by
  refine ⟨?_, ?_, ?_, ?_, ?_⟩
  · rw [C15.floor_spec p1 d hd, C15.floor_spec p2 d hd]
  · rw [C15.ceil_spec p1 d hd, C15.ceil_spec p2 d hd]
  · rw [C15.neg_spec p1 d hd, C15.neg_spec p2 d hd]
  · rw [C15.abs_spec p1 d hd, C15.abs_spec p2 d hd]
  · rw [C15.magnitude_spec p1 d hd, C15.magnitude_spec p2 d hd]

theorem text_profile_indep (p1 p2 : Profile) (tm : Mode) (f : Std.FmtSpec) (d : Dec) (hd : Dom d) :
    toStringDec p1 d = toStringDec p2 d ∧ debugDec p1 d = debugDec p2 d ∧ display p1 tm f d = display p2 tm f d := by
  refine ⟨?_, ?_, ?_⟩
  · rw [C07.string_from_spec p1 d hd, C07.string_from_spec p2 d hd]
  · rw [C07.debug_spec p1 d hd, C07.debug_spec p2 d hd]
  · rw [C11.display_spec p1 tm f d hd, C11.display_spec p2 tm f d hd]

theorem into_float_profile_indep (p1 p2 : Profile) (f : Spec.FloatFmt) (hf : f = Spec.FloatFmt.f64 ∨ f = Spec.FloatFmt.f32)
    (d : Dec) (hd : Dom d) : intoFloat p1 f d = intoFloat p2 f d := by
  rw [C12.into_float_spec p1 f hf d hd, C12.into_float_spec p2 f hf d hd]

theorem ratio_profile_indep (p1 p2 : Profile) (d : Dec) (hd : Dom d) :
    asIntegerRatio p1 d = asIntegerRatio p2 d ∧ hashFeed p1 d = hashFeed p2 d :=
  ⟨by rw [(C09.as_integer_ratio_spec p1 d hd).1, (C09.as_integer_ratio_spec p2 d hd).1],
   by rw [hashFeed_spec p1 d hd, hashFeed_spec p2 d hd]⟩

theorem round_same_obs (p1 p2 : Profile) (tm : Mode) (d : Dec) (n : Int) (hd : Dom d) (hn : -128 ≤ n ∧ n ≤ 127)
    (hdet : Determined (Spec.round tm d.coeff d.nfrac n)) :
    SameObs (outPair (round p1 tm d n)) (outPair (round p2 tm d n)) ∧
    outOptPair (checkedRound p1 tm d n) = outOptPair (checkedRound p2 tm d n) :=
  ⟨determined _ hdet _ _ (C05.round_spec p1 tm d n hd hn) (C05.round_spec p2 tm d n hd hn),
   determined_checked _ hdet (C05.round_valOvf tm d.coeff d.nfrac n).ne_nfrac _ _
     (C05.checked_round_spec p1 tm d n hd hn) (C05.checked_round_spec p2 tm d n hd hn)⟩

theorem mul_same_obs (p1 p2 : Profile) (tm : Mode) (x y : Dec) (hx : Dom x) (hy : Dom y)
    (hdet : Determined (Spec.mul tm x.coeff x.nfrac y.coeff y.nfrac)) :
    SameObs (outPair (mul p1 tm x y)) (outPair (mul p2 tm x y)) :=
  determined _ hdet _ _ (C02.mul_spec C16.wide_mul p1 tm x y hx hy) (C02.mul_spec C16.wide_mul p2 tm x y hx hy)

theorem div_same_obs (p1 p2 : Profile) (tm : Mode) (x y : Dec) (hx : Dom x) (hy : Dom y)
    (hdet : Determined (Spec.div tm x.coeff x.nfrac y.coeff y.nfrac)) :
    SameObs (outPair (div p1 tm x y)) (outPair (div p2 tm x y)) :=
  determined _ hdet _ _ (C03.div_spec C16.wide_div p1 tm x y hx hy) (C03.div_spec C16.wide_div p2 tm x y hx hy)

theorem div_rounded_same_obs (p1 p2 : Profile) (tm : Mode) (x y : Dec) (n : Nat) (hx : Dom x) (hy : Dom y)
    (hdet : Determined (Spec.divRounded tm x.coeff x.nfrac y.coeff y.nfrac n)) :
    SameObs (outPair (divRounded p1 tm x y n)) (outPair (divRounded p2 tm x y n)) :=
  determined _ hdet _ _ (C04.div_rounded_spec C16.wide_div p1 tm x y n hx hy) (C04.div_rounded_spec C16.wide_div p2 tm x y n hx hy)

theorem mul_rounded_same_obs (p1 p2 : Profile) (tm : Mode) (x y : Dec) (n : Nat) (hx : Dom x) (hy : Dom y)
    (hdet : Determined (Spec.mulRounded tm x.coeff x.nfrac y.coeff y.nfrac n)) :
    SameObs (outPair (mulRounded p1 tm x y n)) (outPair (mulRounded p2 tm x y n)) :=
  determined _ hdet _ _ (C04.mul_rounded_spec C16.wide_mul p1 tm x y n hx hy) (C04.mul_rounded_spec C16.wide_mul p2 tm x y n hx hy)

theorem quantize_same_obs (p1 p2 : Profile) (tm : Mode) (x q : Dec) (hx : Dom x) (hq : Dom q)
    (hdet : Determined (Spec.quantize tm false x.coeff x.nfrac q.coeff q.nfrac)) :
    SameObs (outPair (quantize p1 tm x q)) (outPair (quantize p2 tm x q)) :=
  determined _ hdet _ _ (C04.quantize_spec C16.wide_mul C16.wide_div p1 tm x q hx hq) (C04.quantize_spec C16.wide_mul C16.wide_div p2 tm x q hx hq)

/-- `from_str`: the same accept/reject verdict and the same value in every profile -/
theorem from_str_same_obs (p1 p2 : Profile) (s : List Nat) (hb : ∀ c ∈ s, c < 256) (hlen : s.length < 2 ^ 56) :
    match fromStr p1 s, fromStr p2 s with
    | .ok (.ok d1), .ok (.ok d2) => d1 = d2
    | .ok (.error _), .ok (.error _) => True
    | _, _ => False := by
  obtain ⟨x1, hx1, hr1⟩ := ParseAux.fromStr_agree p1 s hb hlen
  obtain ⟨x2, hx2, hr2⟩ := ParseAux.fromStr_agree p2 s hb hlen
  rw [hx1, hx2]
  obtain ⟨d, rfl, rfl⟩ | ⟨e, e', rfl, rfl⟩ := ParseAux.resOf_eq_cases (hr1.trans hr2.symm) <;> trivial

/-- overflow is never silent: whenever the exact result of `+` does not fit, EVERY profile panics (no wrapped value) -/
theorem add_overflow_never_silent (sub : Bool) (x y : Dec) (hx : Dom x) (hy : Dom y)
    (h : Spec.addSub sub x.coeff x.nfrac y.coeff y.nfrac = .ovf) : ∃ k, addSub sub x y = .panic k := by
  have hs := C01.add_sub_spec sub x y hx hy
  rw [h] at hs
  generalize addSub sub x y = r at hs ⊢
  rcases r with d | k
  · exact (Bool.false_ne_true hs).elim
  · exact ⟨k, rfl⟩

/-! ### non-vacuity: the dividend `i128::MIN` — a value, or the same `i128::MIN / -1` panic, in both profiles -/
example : i128DivRounded Profile.dev .heven I128_MIN (-3) none = .ok 56713727820156410577229101238628035243 ∧
    i128DivRounded Profile.release .heven I128_MIN (-3) none = .ok 56713727820156410577229101238628035243 ∧
    i128DivRounded Profile.dev .heven I128_MIN (-1) none = .panic .arith ∧
    i128DivRounded Profile.release .heven I128_MIN (-1) none = .panic .arith := by decide +kernel

/-! ### non-vacuity: the former release-profile wrap-arounds (D11) now panic in every profile -/
example : addSub false Dec.MAX Dec.ONE = .panic .overflow ∧ mulInt Dec.MAX 2 = .panic .overflow ∧
    round Profile.release .heven Dec.MAX (-1) = .panic .overflow ∧ round Profile.dev .heven Dec.MAX (-1) = .panic .overflow := by
  decide

/-- the associated constants of `Decimal` as extracted from src/lib.rs on this run are the model's (`ZERO`/`ONE` are what the
    translated kernels return for `Self::ZERO` / `Self::ONE`; `MIN ..= MAX` with at most `DELTA`'s digits is the domain `Dom`) -/
theorem decimal_consts :
    Gen.DECIMAL_CONSTS =
      [("ZERO", Dec.ZERO.coeff, Dec.ZERO.nfrac), ("ONE", Dec.ONE.coeff, Dec.ONE.nfrac),
       ("NEG_ONE", Dec.NEG_ONE.coeff, Dec.NEG_ONE.nfrac), ("TWO", Dec.TWO.coeff, Dec.TWO.nfrac),
       ("TEN", Dec.TEN.coeff, Dec.TEN.nfrac), ("MAX", Dec.MAX.coeff, Dec.MAX.nfrac), ("MIN", Dec.MIN.coeff, Dec.MIN.nfrac),
       ("DELTA", Dec.DELTA.coeff, Dec.DELTA.nfrac)] := Kernels.decimal_consts_tie
theorem dom_is_min_max (d : Dec) :
    (Dec.MIN.coeff ≤ d.coeff ∧ d.coeff ≤ Dec.MAX.coeff ∧ d.nfrac ≤ Dec.DELTA.nfrac) ↔ Dom d := Kernels.dom_is_min_max d

end Fpdec.Props.C20
