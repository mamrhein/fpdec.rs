import Fpdec.Lemmas.Text
import Fpdec.Kernels.Format
import Fpdec.Kernels.Misc
import Fpdec.Kernels.FromStr
import Fpdec.Model.Parser
import Fpdec.Lemmas.Parse
import Fpdec.Props.C07_Sites

/-!
# C07 — Display/ToString is canonical and round-trips through the parser

* `to_string_spec`, `string_from_spec`, `debug_spec`: `d.to_string()` (Display without flags), `String::from(d)` and the
  text inside `Debug`'s `Dec!(..)` are the same byte string `Spec.render d`: optional `-`, the integer part without leading
  zeros, and — iff `d` has `f > 0` fractional digits — a `.` followed by exactly `f` digits.  All profiles.
* `render_parses_back`: the reference grammar parser maps that text back to exactly `(coefficient, fractional digits)`;
  the text is made of bytes and is shorter than 64.
* `roundtrip`: composing with the parser theorem of C06 (`fromStr_ok_iff`) gives
  `Decimal::from_str(d.to_string()) = Ok(d)` with identical coefficient and digit count.
* serde-as-str (`serde_glue`, `serde_roundtrip`): the attributes of `struct Decimal` are re-extracted on every run; they are the
  derive with `into = "String"` / `try_from = "String"` and nothing else, and no hand-written `Serialize`/`Deserialize` impl
  exists — so serialising is `serialize_str(String::from(d))` and deserialising `Decimal::try_from(String)`, whose *translated*
  bodies round-trip: `try_from(String::from(d)) = Ok(d)`.  serde's own code (the derive expansion, `serde_json`) is exercised by
  the correspondence run with the feature enabled, not modelled.
-/

namespace Fpdec.Props.C07
open Fpdec Fpdec.Model

theorem string_from_spec (prof : Profile) (d : Dec) (hd : Dom d) :
    toStringDec prof d = .ok (Spec.render d.coeff d.nfrac) := by
  obtain ⟨h1, h2, h3⟩ := hd
  unfold toStringDec
  rw [render_eq]
  by_cases h0 : d.nfrac = 0
  · rw [if_pos h0, h0, renderAbs_zero, fmtInt_eq]
  · rw [if_neg h0, abs_ok prof ⟨h1, h2⟩, tenPow_ok _ (by omega)]
    simp only [Outcome.bind_ok]
    rw [floorPow10 prof _ _ (natAbs_le_max ⟨h1, h2⟩) (by omega)]
    simp only [Outcome.bind_ok, Outcome.pure_eq, Int.toNat_natCast]
    rw [sign_eq, ← fmt_parts_same (fun t => Outcome.ok (_ ++ t)), if_pos (show d.nfrac > 0 by omega)]
    simp only [List.append_assoc]

theorem to_string_spec (prof : Profile) (tm : Mode) (d : Dec) (hd : Dom d) :
    display prof tm {} d = .ok (Spec.render d.coeff d.nfrac) := display_default prof tm d hd

theorem debug_spec (prof : Profile) (d : Dec) (hd : Dom d) :
    debugDec prof d = .ok ([68, 101, 99, 33, 40] ++ Spec.render d.coeff d.nfrac ++ [41]) := by
  unfold debugDec
  rw [string_from_spec prof d hd]
  rfl

open ParseAux in
/-- the reference parser on a literal without exponent, `[-]digits` (`pt = []`) or `[-]digits.digits` (`pt = '.' :: fp`): the
    digits read as one number, the sign, and the count of digits after the point -/
theorem parse_plain (neg : Prop) [Decidable neg] (ip fp pt : List Nat) (hne : ip ≠ []) (hip : ∀ c ∈ ip, Spec.isDig c = true)
    (hfp : ∀ c ∈ fp, Spec.isDig c = true) (hpt : pt = [] ∧ fp = [] ∨ pt = 46 :: fp) (hl : fp.length ≤ 18)
    (hD : (Spec.digitsVal (ip ++ fp) : Int) ≤ 2 ^ 127 - 1) :
    Spec.parseSpec ((if neg then [45] else []) ++ ip ++ pt) =
      .ok (if neg then -(Spec.digitsVal (ip ++ fp) : Int) else Spec.digitsVal (ip ++ fp)) fp.length := by
  -- the stages on the unsigned literal: integer digits `ip`, fraction digits `fp`, nothing after them
  obtain ⟨hpt0, hfr1, hfr2⟩ : Spec.spanDigits pt = ([], pt) ∧ (sFrac pt).1 = fp ∧ (sFrac pt).2.1 = [] := by
    rcases hpt with ⟨rfl, rfl⟩ | rfl
    · exact ⟨rfl, rfl, rfl⟩
    · have h := span_prefix fp [] hfp
      rw [List.append_nil] at h
      rw [sFrac_point, h]
      exact ⟨span_cons_nondig 46 fp (by decide), List.append_nil fp, rfl⟩
  have hbody : sBody false (ip ++ pt) = .ok (Spec.digitsVal (ip ++ fp)) fp.length := by
    rw [sBody, span_prefix ip pt hip, hpt0, List.append_nil]
    simp only
    rw [hfr1, hfr2, sTail, if_neg (fun h => hne (List.isEmpty_iff.mp h.1))]
    exact sFinal_noexp false _ _ hl hD
  by_cases h : neg
  · rw [if_pos h, if_pos h, List.append_assoc, List.singleton_append, parseSpec_minus, hbody]
    rfl
  · obtain ⟨c, cs, rfl⟩ := List.exists_cons_of_ne_nil hne
    have hc := isDig_iff.mp (hip c List.mem_cons_self)
    rw [if_neg h, if_neg h, List.nil_append, List.cons_append, parseSpec_nosign _ (by omega) (by omega)]
    exact hbody

theorem isDig_lt {c : Nat} (h : Spec.isDig c = true) : c < 256 :=
  Nat.lt_of_le_of_lt (ParseAux.isDig_iff.mp h).2 (by decide)

theorem render_parses_back (a : Int) (p : Nat) (ha : I128_MIN < a ∧ a ≤ I128_MAX) (hp : p ≤ 18) :
    Spec.parseSpec (Spec.render a p) = .ok a p ∧ (∀ c ∈ Spec.render a p, c < 256) ∧ (Spec.render a p).length < 64 := by
  have hm : (a.natAbs : Int) ≤ 2 ^ 127 - 1 := natAbs_le_max ha
  have hsgn : (if a < 0 then -(a.natAbs : Int) else (a.natAbs : Int)) = a := by split <;> omega
  have hipd := digitsOf_isDig (a.natAbs / 10 ^ p)
  have hiplen : (Spec.digitsOf (a.natAbs / 10 ^ p)).length ≤ 39 :=
    (digitsOf_length_le (by decide)).mpr (Nat.lt_of_le_of_lt (Nat.div_le_self _ _) (by rw [pow2_127] at hm; omega))
  -- `render a p = sign ++ ip ++ pt` with `pt` empty or the point and `p` digits `fp`
  obtain ⟨fp, pt, hpt, hr, hfpd, hfpl, hfpv⟩ : ∃ fp pt : List Nat, (pt = [] ∧ fp = [] ∨ pt = 46 :: fp) ∧
      Spec.renderAbs a.natAbs p = Spec.digitsOf (a.natAbs / 10 ^ p) ++ pt ∧ (∀ c ∈ fp, Spec.isDig c = true) ∧
      fp.length = p ∧ Spec.digitsVal fp = a.natAbs % 10 ^ p := by
    rcases Nat.eq_zero_or_pos p with rfl | hp0
    · exact ⟨[], [], Or.inl ⟨rfl, rfl⟩, by rw [renderAbs_zero, List.append_nil, Nat.pow_zero, Nat.div_one],
        fun _ h => absurd h List.not_mem_nil, rfl, (Nat.mod_one _).symm⟩
    · exact ⟨_, _, Or.inr rfl, renderAbs_pos _ hp0, fmtZeroPad_isDig _ _,
        fmtZeroPad_length hp0 (Nat.mod_lt _ (Nat.pow_pos (by decide))), digitsVal_fmtZeroPad _ _⟩
  have hD : Spec.digitsVal (Spec.digitsOf (a.natAbs / 10 ^ p) ++ fp) = a.natAbs := by
    rw [digitsVal_append, digitsVal_digitsOf, hfpl, hfpv]
    exact Nat.div_add_mod' _ _
  have hptl : pt.length ≤ p + 1 ∧ ∀ c ∈ pt, c < 256 := by
    rcases hpt with ⟨rfl, -⟩ | rfl
    · exact ⟨Nat.zero_le _, fun _ h => nomatch h⟩
    · exact ⟨Nat.le_of_eq (by rw [List.length_cons, hfpl]),
        fun c hc => (List.mem_cons.mp hc).elim (fun h => h ▸ (by decide : 46 < 256)) fun h => isDig_lt (hfpd c h)⟩
  have hsl : (if a < 0 then [45] else ([] : List Nat)).length ≤ 1 ∧
      ∀ c ∈ (if a < 0 then [45] else ([] : List Nat)), c < 256 := by
    split
    · exact ⟨Nat.le_refl 1, fun c hc => List.mem_singleton.mp hc ▸ (by decide : 45 < 256)⟩
    · exact ⟨Nat.zero_le 1, fun _ h => nomatch h⟩
  rw [render_eq, hr, ← List.append_assoc]
  refine ⟨?_, ?_, ?_⟩
  · rw [parse_plain _ _ fp pt (digitsOf_ne_nil _) hipd hfpd hpt (by omega) (by rw [hD]; exact hm), hD, hfpl, hsgn]
  · exact List.forall_mem_append.mpr ⟨List.forall_mem_append.mpr ⟨hsl.2, fun c hc => isDig_lt (hipd c hc)⟩, hptl.2⟩
  · rw [List.length_append, List.length_append]
    omega

/-- `Decimal::from_str(d.to_string()) == Ok(d)`, identical coefficient and fractional digit count, every profile -/
theorem roundtrip (prof : Profile) (d : Dec) (hd : Dom d) :
    fromStr prof (Spec.render d.coeff d.nfrac) = .ok (.ok d) := by
  obtain ⟨h1, h2, h3⟩ := render_parses_back d.coeff d.nfrac ⟨hd.1, hd.2.1⟩ hd.2.2
  exact (fromStr_ok_iff prof _ h2 (by omega) d).mpr h1

/-! ### non-vacuity -/
example : toStringDec Profile.dev ⟨-5, 3⟩ = .ok [45, 48, 46, 48, 48, 53] := by decide +kernel   -- "-0.005"

/-! ### translated kernels
The Lean definitions `Gen.K.*` are regenerated from the Rust source on every run by `tools/fpkernels.py` (expression-level
translation; `format!` / `write!` placeholder by placeholder).  These theorems tie them to the hand-written model the property
theorems above are about, and give the end-to-end statements about the *translated* functions. -/
theorem kernel_string_from_decimal (prof : Profile) (d : Dec) (hd : Dom d) :
    Gen.K.string_from_decimal prof d = toStringDec prof d := Kernels.string_from_decimal_eq prof d hd
theorem kernel_decimal_debug_fmt (prof : Profile) (d : Dec) (f : Std.FmtSpec) (hd : Dom d) :
    Gen.K.decimal_debug_fmt prof d f = debugDec prof d := Kernels.decimal_debug_fmt_eq prof d f hd
theorem kernel_decimal_display_fmt (prof : Profile) (tm : Mode) (d : Dec) (f : Std.FmtSpec) (hd : Dom d) :
    Gen.K.decimal_display_fmt prof tm d f = display prof tm f d := Kernels.decimal_display_fmt_eq prof tm d f hd
/-- end to end: the translated `String::from`, `to_string` (= `Display` with default flags) and `Debug` produce the canonical text -/
theorem kernel_string_from_spec (prof : Profile) (d : Dec) (hd : Dom d) :
    Gen.K.string_from_decimal prof d = .ok (Spec.render d.coeff d.nfrac) := by
  rw [Kernels.string_from_decimal_eq prof d hd]; exact string_from_spec prof d hd
theorem kernel_to_string_spec (prof : Profile) (tm : Mode) (d : Dec) (hd : Dom d) :
    Gen.K.decimal_display_fmt prof tm d {} = .ok (Spec.render d.coeff d.nfrac) := by
  rw [Kernels.decimal_display_fmt_eq prof tm d {} hd]; exact to_string_spec prof tm d hd
theorem kernel_debug_spec (prof : Profile) (d : Dec) (f : Std.FmtSpec) (hd : Dom d) :
    Gen.K.decimal_debug_fmt prof d f = .ok ([68, 101, 99, 33, 40] ++ Spec.render d.coeff d.nfrac ++ [41]) := by
  rw [Kernels.decimal_debug_fmt_eq prof d f hd]; exact debug_spec prof d hd

/-! ### feature serde-as-str -/
/-- the serde glue attached to `struct Decimal`, as extracted from src/lib.rs on this run -/
theorem serde_glue :
    Gen.SERDE_DERIVES = ["Serialize", "Deserialize"] ∧ Gen.SERDE_INTO = "String" ∧ Gen.SERDE_TRY_FROM = "String" ∧
    Gen.SERDE_OTHER_ATTRS = 0 ∧ Gen.SERDE_MANUAL_IMPLS = 0 ∧
    Gen.DECIMAL_FIELDS = [("coeff", "i128"), ("n_frac_digits", "u8")] := by decide
/-- `Decimal::try_from(String::from(d)) = Ok(d)` for the translated bodies of this run (what serialize ∘ deserialize computes) -/
theorem serde_roundtrip (prof : Profile) (d : Dec) (hd : Dom d) :
    (Gen.K.string_from_decimal prof d >>= Gen.K.decimal_try_from_string prof) = .ok (.ok d) := by
  rw [kernel_string_from_spec prof d hd, Kernels.bind_ok', Kernels.decimal_try_from_string_eq]
  exact roundtrip prof d hd

/-! ### algebraic laws -/

/-- canonicalisation: the text determines the representation — on the domain `Spec.render` is injective in the pair
    (coefficient, number of fractional digits), because the reference parser reads the pair back (`render_parses_back`) -/
theorem render_injective (a : Int) (p : Nat) (b : Int) (q : Nat) (ha : I128_MIN < a ∧ a ≤ I128_MAX) (hp : p ≤ 18)
    (hb : I128_MIN < b ∧ b ≤ I128_MAX) (hq : q ≤ 18) (h : Spec.render a p = Spec.render b q) : a = b ∧ p = q := by
  have h1 := (render_parses_back a p ha hp).1
  have h2 := (render_parses_back b q hb hq).1
  rw [h, h2] at h1
  injection h1 with e1 e2
  exact ⟨e1.symm, e2.symm⟩

/-- hence `to_string` / `String::from` are injective on the domain, in every profile: different (coefficient, digit count)
    pairs — also two representations of the same value, such as `1.0` and `1.00` — give different texts -/
theorem to_string_injective (prof : Profile) (x y : Dec) (hx : Dom x) (hy : Dom y)
    (h : toStringDec prof x = toStringDec prof y) : x = y := by
  rw [string_from_spec prof x hx, string_from_spec prof y hy] at h
  obtain ⟨a, p⟩ := x
  obtain ⟨b, q⟩ := y
  obtain ⟨rfl, rfl⟩ := render_injective a p b q ⟨hx.1, hx.2.1⟩ hx.2.2 ⟨hy.1, hy.2.1⟩ hy.2.2 (Outcome.ok.inj h)
  rfl

theorem to_string_ne_of_ne (prof : Profile) (x y : Dec) (hx : Dom x) (hy : Dom y) (h : x ≠ y) :
    toStringDec prof x ≠ toStringDec prof y := fun e => h (to_string_injective prof x y hx hy e)

example : toStringDec Profile.dev ⟨10, 1⟩ = .ok [49, 46, 48] ∧ toStringDec Profile.dev ⟨100, 2⟩ = .ok [49, 46, 48, 48] ∧
    toStringDec Profile.dev ⟨1, 0⟩ = .ok [49] ∧ Spec.render (-5) 3 ≠ Spec.render (-50) 4 ∧ Spec.render 0 0 ≠ Spec.render 0 1 := by decide +kernel

end Fpdec.Props.C07
