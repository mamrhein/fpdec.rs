import Fpdec.Gen.Sites
import Fpdec.Model.Pinned

/-! Site ties for C20 (written by tools/mksites.py): the flavour skeleton of every source file the property's operations
execute, as regenerated from /repo on this run, equals the skeleton the model was written against. -/

namespace Fpdec.Props.C20

theorem tie_sites_fpdec_core_src_lib : Gen.sites_fpdec_core_src_lib = Pinned.sites_fpdec_core_src_lib := rfl
theorem tie_sites_fpdec_core_src_powers_of_ten : Gen.sites_fpdec_core_src_powers_of_ten = Pinned.sites_fpdec_core_src_powers_of_ten := rfl
theorem tie_sites_fpdec_core_src_rounding : Gen.sites_fpdec_core_src_rounding = Pinned.sites_fpdec_core_src_rounding := rfl
theorem tie_sites_fpdec_core_src_parser : Gen.sites_fpdec_core_src_parser = Pinned.sites_fpdec_core_src_parser := rfl
theorem tie_sites_fpdec_macros_src_lib : Gen.sites_fpdec_macros_src_lib = Pinned.sites_fpdec_macros_src_lib := rfl
theorem tie_sites_src_lib : Gen.sites_src_lib = Pinned.sites_src_lib := rfl
theorem tie_sites_src_round : Gen.sites_src_round = Pinned.sites_src_round := rfl
theorem tie_sites_src_unops : Gen.sites_src_unops = Pinned.sites_src_unops := rfl
theorem tie_sites_src_quantize : Gen.sites_src_quantize = Pinned.sites_src_quantize := rfl
theorem tie_sites_src_format : Gen.sites_src_format = Pinned.sites_src_format := rfl
theorem tie_sites_src_from_str : Gen.sites_src_from_str = Pinned.sites_src_from_str := rfl
theorem tie_sites_src_from_int : Gen.sites_src_from_int = Pinned.sites_src_from_int := rfl
theorem tie_sites_src_into_int : Gen.sites_src_into_int = Pinned.sites_src_into_int := rfl
theorem tie_sites_src_from_float : Gen.sites_src_from_float = Pinned.sites_src_from_float := rfl
theorem tie_sites_src_into_float : Gen.sites_src_into_float = Pinned.sites_src_into_float := rfl
theorem tie_sites_src_as_integer_ratio : Gen.sites_src_as_integer_ratio = Pinned.sites_src_as_integer_ratio := rfl
theorem tie_sites_src_num_traits : Gen.sites_src_num_traits = Pinned.sites_src_num_traits := rfl
theorem tie_sites_src_binops_mod : Gen.sites_src_binops_mod = Pinned.sites_src_binops_mod := rfl
theorem tie_sites_src_binops_add_sub : Gen.sites_src_binops_add_sub = Pinned.sites_src_binops_add_sub := rfl
theorem tie_sites_src_binops_checked_add_sub : Gen.sites_src_binops_checked_add_sub = Pinned.sites_src_binops_checked_add_sub := rfl
theorem tie_sites_src_binops_mul : Gen.sites_src_binops_mul = Pinned.sites_src_binops_mul := rfl
theorem tie_sites_src_binops_checked_mul : Gen.sites_src_binops_checked_mul = Pinned.sites_src_binops_checked_mul := rfl
theorem tie_sites_src_binops_mul_rounded : Gen.sites_src_binops_mul_rounded = Pinned.sites_src_binops_mul_rounded := rfl
theorem tie_sites_src_binops_div : Gen.sites_src_binops_div = Pinned.sites_src_binops_div := rfl
theorem tie_sites_src_binops_checked_div : Gen.sites_src_binops_checked_div = Pinned.sites_src_binops_checked_div := rfl
theorem tie_sites_src_binops_div_rounded : Gen.sites_src_binops_div_rounded = Pinned.sites_src_binops_div_rounded := rfl
theorem tie_sites_src_binops_rem : Gen.sites_src_binops_rem = Pinned.sites_src_binops_rem := rfl
theorem tie_sites_src_binops_checked_rem : Gen.sites_src_binops_checked_rem = Pinned.sites_src_binops_checked_rem := rfl
theorem tie_sites_src_binops_cmp : Gen.sites_src_binops_cmp = Pinned.sites_src_binops_cmp := rfl

end Fpdec.Props.C20
