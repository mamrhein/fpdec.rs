import Fpdec.Kernels.Rem
import Fpdec.Lemmas.Rem
import Fpdec.Props.C10_Sites

/-!
# C10 — Remainder satisfies the truncated-division identity exactly

* `rem_core_spec`: the shared function `rem(a, p, b, q)` — equal scales, scaled divisor (or dividend already the remainder when
  the divisor cannot be scaled), scaled dividend, and the digit loop used when the dividend cannot be re-expressed within i128 —
  returns `(A tmod B, max p q)` for the operands re-expressed with `max p q` digits; the only other outcome is the overflow
  signal, and only when `p < q` and the scaled dividend does not fit an i128.
* `rem_spec`, `checked_rem_spec`, `rem_dec_int_spec`, `rem_int_dec_spec`: `%`, `checked_rem` and the integer shapes with the
  zero-divisor (panic / `None`), zero-dividend and divisor-equals-one short cuts.
  The integer operand ranges over the **whole** `i128` range in both positions, `i128::MIN` included (after the repair D14:
  `i128::MIN % Dec!(-1)` used to panic because `%` on `(i128::MIN, -1)` does; `rem_min_by_minus_one`).
* `tmod_is_the_remainder`: `A tmod B` is the unique `r` with `A = B·t + r`, `|r| < |B|`, `r` zero or of the sign of `A`.
No function of the model here takes a build-profile argument (C20 for `%`): the coefficient arithmetic is `checked_*`, `%` or
`wrapping_rem`; the plain operators in the source, the `u8` differences of the digit counts and `shift -= 1`, stand behind a
comparison or the loop test, and the tie shows that they cannot overflow (`kernel_rem`).
-/

namespace Fpdec.Props.C10
open Fpdec Fpdec.Model

theorem rem_core_spec (a : Int) (p : Nat) (b : Int) (q : Nat)
    (ha : I128_MIN ≤ a ∧ a ≤ I128_MAX) (hb : I128_MIN ≤ b ∧ b ≤ I128_MAX) (hb0 : b ≠ 0) (hp : p ≤ 18) (hq : q ≤ 18) :
    Spec.allowedChecked
      (let m := max p q
       let A := a * (10 : Int) ^ (m - p)
       let B := b * (10 : Int) ^ (m - q)
       if p < q ∧ !Spec.fits A then Spec.Exp.valOrOvf (A.tmod B) m else Spec.Exp.val (A.tmod B) m)
      (outOptPair (remCore a p b q)) = true := remCore_spec a p b q ha hb hb0 hp hq

theorem rem_spec (x y : Dec) (hx : Dom x) (hy : Dom y) :
    Spec.allowedOp (Spec.rem x.coeff x.nfrac y.coeff y.nfrac)
      (outPair (opOfChecked (eqZero y) (if eqZero y then .ok none else remDecDec x y))) = true :=
  Fpdec.rem_spec x y hx hy

theorem checked_rem_spec (x y : Dec) (hx : Dom x) (hy : Dom y) :
    Spec.allowedChecked (Spec.rem x.coeff x.nfrac y.coeff y.nfrac)
      (outOptPair (checkedOfChecked (eqZero y) (if eqZero y then .ok none else remDecDec x y))) = true :=
  Fpdec.checked_rem_spec x y hx hy

theorem rem_dec_int_spec (x : Dec) (i : Int) (hx : Dom x) (hi : I128_MIN ≤ i ∧ i ≤ I128_MAX) (hi0 : i ≠ 0) :
    Spec.allowedChecked (Spec.rem x.coeff x.nfrac i 0) (outOptPair (remDecInt x i)) = true :=
  Fpdec.rem_dec_int_spec x i hx hi hi0

theorem rem_int_dec_spec (i : Int) (y : Dec) (hy : Dom y) (hi : I128_MIN ≤ i ∧ i ≤ I128_MAX) (hy0 : y.coeff ≠ 0) :
    Spec.allowedChecked (Spec.rem i 0 y.coeff y.nfrac) (outOptPair (remIntDec i y)) = true :=
  Fpdec.rem_int_dec_spec i y hy hi hy0

theorem tmod_is_the_remainder (A B r : Int) (hB : B ≠ 0) :
    r = A.tmod B ↔ (∃ t : Int, A = B * t + r) ∧ r.natAbs < B.natAbs ∧ (r = 0 ∨ (0 < r ∧ 0 < A) ∨ (r < 0 ∧ A < 0)) := by
  constructor
  · rintro rfl
    exact ⟨⟨A.tdiv B, (Int.mul_tdiv_add_tmod A B).symm⟩, by rw [Int.natAbs_tmod]; exact Nat.mod_lt _ (by omega), tmod_sign A B⟩
  · rintro ⟨⟨t, ht⟩, hlt, hs⟩
    exact (tmod_unique hB ht hlt (by omega)).symm

/-- D14 (repaired): the integer dividend `i128::MIN` with a divisor whose coefficient is `-1` — remainder zero, no panic, also
    when the dividend cannot be re-expressed with the divisor's fractional digits -/
theorem rem_min_by_minus_one (q : Nat) (hq : q ≤ 18) :
    remIntDec I128_MIN ⟨-1, q⟩ = .ok (some ⟨0, q⟩) := by
  have : ∀ q : Nat, q ≤ 18 → remIntDec I128_MIN ⟨-1, q⟩ = .ok (some ⟨0, q⟩) := by decide
  exact this q hq

/-! ### non-vacuity -/
example : remCore (-25) 1 7 0 = .ok (some ⟨-25, 1⟩) ∧ remCore I128_MAX 0 3 18 = .ok (some ⟨1, 18⟩) := by decide +kernel
example : remCore (I128_MAX / 3) 1 (I128_MAX / 5) 3 = .ok none := by decide +kernel   -- the permitted overflow (repo test test_rem_panic_ovfl)

/-! ### translated kernels
The Lean definitions `Gen.K.*` are regenerated from the Rust source on every run by `tools/fpkernels.py` (expression-level
translation).  These theorems tie them to the hand-written model the property theorems above are about: a change of the Rust
kernel that changes its translation breaks them. -/
/-- `fn rem` of src/binops/rem.rs (all three scale cases and the digit loop with its early `Err`) -/
theorem kernel_rem (prof : Profile) (a : Int) (p : Nat) (b : Int) (q : Nat) (hp : p < 256) (hq : q < 256) :
    Gen.K.rem prof a p b q = Kernels.remResult <$> remCore a p b q := Kernels.rem_eq prof a p b q hp hq
theorem kernel_checked_mul_pow_ten (prof : Profile) (val : Int) (n : Nat) :
    Gen.K.checked_mul_pow_ten prof val n = .ok (checkedMulPowTen val n) := Kernels.checked_mul_pow_ten_eq prof val n

/-- `impl Rem<Decimal> for Decimal` / `impl CheckedRem<Decimal> for Decimal`, as translated on this run -/
theorem kernel_decimal_rem (prof : Profile) (x y : Dec) (hp : x.nfrac < 256) (hq : y.nfrac < 256) :
    Gen.K.decimal_rem prof x y = opOfChecked (eqZero y) (remDecDec x y) := Kernels.decimal_rem_eq prof x y hp hq
theorem kernel_decimal_checked_rem (prof : Profile) (x y : Dec) (hp : x.nfrac < 256) (hq : y.nfrac < 256) :
    Gen.K.decimal_checked_rem prof x y = checkedOfChecked (eqZero y) (remDecDec x y) :=
  Kernels.decimal_checked_rem_eq prof x y hp hq

/-- the integer forms (`Decimal % int`, `int % Decimal`, and their `checked_rem`), macro bodies instantiated with `i64` -/
theorem kernel_decimal_rem_int (prof : Profile) (x : Dec) (i : Int) (hp : x.nfrac < 256) :
    Gen.K.decimal_rem_int prof x i = opOfChecked (decide (i = 0)) (remDecInt x i) := Kernels.decimal_rem_int_eq prof x i hp
theorem kernel_decimal_checked_rem_int (prof : Profile) (x : Dec) (i : Int) (hp : x.nfrac < 256) :
    Gen.K.decimal_checked_rem_int prof x i = checkedOfChecked (decide (i = 0)) (remDecInt x i) :=
  Kernels.decimal_checked_rem_int_eq prof x i hp
theorem kernel_int_rem_decimal (prof : Profile) (i : Int) (y : Dec) (hq : y.nfrac < 256) :
    Gen.K.int_rem_decimal prof i y = opOfChecked (eqZero y) (remIntDec i y) := Kernels.int_rem_decimal_eq prof i y hq
theorem kernel_int_checked_rem_decimal (prof : Profile) (i : Int) (y : Dec) (hq : y.nfrac < 256) :
    Gen.K.int_checked_rem_decimal prof i y = checkedOfChecked (eqZero y) (remIntDec i y) :=
  Kernels.int_checked_rem_decimal_eq prof i y hq

/-! ### algebraic laws: `checked_rem` against `%`
Operator and checked variant share one body (`remDecDec`, `remDecInt`, `remIntDec`) behind the zero-divisor test: the operator is
`opOfChecked z body`, the checked variant `checkedOfChecked z body` (`kernel_decimal_rem` … tie both to the Rust source). -/

theorem rem_body_no_panic (x y : Dec) (hx : Dom x) (hy : Dom y) (hy0 : eqZero y = false) : ∃ o, remDecDec x y = .ok o := by
  have hy0' := (eqZero_eq_false_iff y).mp hy0
  exact ok_of_allowedChecked (spec_rem_valOvf _ _ _ _ hy0') (remDecDec_spec x y hx.domI hy.domI hy0')

/-- `x.checked_rem(y)` never panics on the domain -/
theorem checked_rem_no_panic (x y : Dec) (hx : Dom x) (hy : Dom y) :
    ∃ o, checkedOfChecked (eqZero y) (remDecDec x y) = .ok o :=
  checked_form_no_panic _ _ (rem_body_no_panic x y hx hy)

/-- `Some(r)` exactly when `x % y` returns `r` (no hypothesis) -/
theorem checked_rem_some_iff (x y r : Dec) :
    checkedOfChecked (eqZero y) (remDecDec x y) = .ok (some r) ↔ opOfChecked (eqZero y) (remDecDec x y) = .ok r :=
  checked_some_iff_op_ok _ _ _

/-- `None` exactly when `x % y` panics — division-by-zero panic or overflow panic, nothing else -/
theorem checked_rem_none_iff (x y : Dec) (hx : Dom x) (hy : Dom y) :
    checkedOfChecked (eqZero y) (remDecDec x y) = .ok none ↔
      (opOfChecked (eqZero y) (remDecDec x y) = .panic .divzero ∨ opOfChecked (eqZero y) (remDecDec x y) = .panic .overflow) :=
  checked_none_iff_op_panic _ _ (rem_body_no_panic x y hx hy)

/-- the division-by-zero panic exactly for a zero divisor -/
theorem rem_divzero_iff (x y : Dec) (hx : Dom x) (hy : Dom y) :
    opOfChecked (eqZero y) (remDecDec x y) = .panic .divzero ↔ y.coeff = 0 := by
  rw [op_divzero_iff _ _ (rem_body_no_panic x y hx hy)]
  exact decide_eq_true_iff

theorem rem_panic_kind (x y : Dec) (k : PanicKind) (hx : Dom x) (hy : Dom y)
    (h : opOfChecked (eqZero y) (remDecDec x y) = .panic k) : k = .divzero ∨ k = .overflow :=
  op_panic_kind _ _ k (rem_body_no_panic x y hx hy) h

theorem checked_rem_dec_int_none_iff (x : Dec) (i : Int) (hx : Dom x) (hi : I128_MIN ≤ i ∧ i ≤ I128_MAX) :
    checkedOfChecked (decide (i = 0)) (remDecInt x i) = .ok none ↔
      (opOfChecked (decide (i = 0)) (remDecInt x i) = .panic .divzero ∨
        opOfChecked (decide (i = 0)) (remDecInt x i) = .panic .overflow) :=
  checked_none_iff_op_panic _ _ fun hi0 =>
    have hi0' : i ≠ 0 := of_decide_eq_false hi0
    ok_of_allowedChecked (spec_rem_valOvf _ _ _ _ hi0') (rem_dec_int_spec x i hx hi hi0')

theorem checked_rem_int_dec_none_iff (i : Int) (y : Dec) (hy : Dom y) (hi : I128_MIN ≤ i ∧ i ≤ I128_MAX) :
    checkedOfChecked (eqZero y) (remIntDec i y) = .ok none ↔
      (opOfChecked (eqZero y) (remIntDec i y) = .panic .divzero ∨ opOfChecked (eqZero y) (remIntDec i y) = .panic .overflow) :=
  checked_none_iff_op_panic _ _ fun hy0 =>
    have hy0' := (eqZero_eq_false_iff y).mp hy0
    ok_of_allowedChecked (spec_rem_valOvf _ _ _ _ hy0') (rem_int_dec_spec i y hy hi hy0')

example : checkedOfChecked (eqZero ⟨7, 0⟩) (remDecDec ⟨-25, 1⟩ ⟨7, 0⟩) = .ok (some ⟨-25, 1⟩) ∧
    opOfChecked (eqZero ⟨7, 0⟩) (remDecDec ⟨-25, 1⟩ ⟨7, 0⟩) = .ok ⟨-25, 1⟩ ∧
    checkedOfChecked (eqZero ⟨0, 3⟩) (remDecDec ⟨-25, 1⟩ ⟨0, 3⟩) = .ok none ∧
    opOfChecked (eqZero ⟨0, 3⟩) (remDecDec ⟨-25, 1⟩ ⟨0, 3⟩) = .panic .divzero ∧
    checkedOfChecked (eqZero ⟨I128_MAX / 5, 3⟩) (remDecDec ⟨I128_MAX / 3, 1⟩ ⟨I128_MAX / 5, 3⟩) = .ok none ∧
    opOfChecked (eqZero ⟨I128_MAX / 5, 3⟩) (remDecDec ⟨I128_MAX / 3, 1⟩ ⟨I128_MAX / 5, 3⟩) = .panic .overflow := by decide +kernel

end Fpdec.Props.C10
