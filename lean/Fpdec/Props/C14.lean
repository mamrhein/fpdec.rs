import Fpdec.Kernels.Lib
import Fpdec.Kernels.IntConv
import Fpdec.Lemmas.Unary
import Fpdec.Lemmas.Cmp
import Fpdec.Props.C14_Sites

/-!
# C14 — Integer conversions are exact and total with precise error kinds

* `from_int_spec`, `try_from_u128_spec`: `Decimal::from(i)` is `(i, 0)`; `try_from(u128)` fails with `InternalOverflow` exactly
  above `i128::MAX`.
* `into_int_spec`: `T::try_from(d)` for the ten primitive integer types returns `Ok v` exactly when the value of `d` is the integer
  `v ∈ T` (also when written with trailing fractional zeros), `NotAnIntValue` exactly when the value is not integral — whatever its
  range — and `ValueOutOfRange` otherwise; `spec_meaning` says what the spec means without reference to the code.
No function here takes a build-profile argument.
-/

namespace Fpdec.Props.C14
open Fpdec Fpdec.Model

theorem from_int_spec (i : Int) : fromInt i = ⟨i, 0⟩ := rfl

theorem try_from_u128_spec (i : Nat) :
    tryFromU128 i = if (i : Int) ≤ I128_MAX then some ⟨i, 0⟩ else none := rfl

theorem into_int_spec (t : IntTy) (ht : IsTargetTy t) (d : Dec) (hd : Dom d) :
    intoInt t d = .ok (match Spec.intoInt t d.coeff d.nfrac with
      | .ok v => .ok v
      | .error false => .error .notAnInt
      | .error true => .error .outOfRange) :=
  intoInt_eq t d hd.nfrac_le_38

theorem spec_meaning (t : IntTy) (a : Int) (p : Nat) :
    (∀ v, Spec.intoInt t a p = .ok v ↔ (a = v * (10 : Int) ^ p ∧ t.fits v = true)) ∧
    (Spec.intoInt t a p = .error false ↔ ¬ ∃ v : Int, a = v * (10 : Int) ^ p) := by
  have hne : (10 : Int) ^ p ≠ 0 := Int.ne_of_gt (pow10_pos p)
  unfold Spec.intoInt
  dsimp only
  generalize (10 : Int) ^ p = d at hne
  -- a multiple `v·d` has remainder 0 and quotient `v`, and conversely
  have mul (v : Int) (h : a = v * d) : a % d = 0 ∧ a / d = v := by
    subst h; exact ⟨Int.mul_emod_left v d, Int.mul_ediv_cancel v hne⟩
  have quot (h : a % d = 0) : a = a / d * d := (Int.ediv_mul_cancel_of_emod_eq_zero h).symm
  refine ⟨fun v => ⟨fun h => ?_, fun ⟨h1, h2⟩ => ?_⟩, fun h ⟨v, hv⟩ => ?_, fun h => if_pos fun hr => h ⟨_, quot hr⟩⟩
  · split at h
    · cases h
    · split at h
      · cases h; exact ⟨quot (Decidable.not_not.mp ‹_›), ‹_›⟩
      · cases h
  · rw [if_neg (Decidable.not_not.mpr (mul v h1).1), (mul v h1).2, if_pos h2]
  · rw [if_neg (Decidable.not_not.mpr (mul v hv).1)] at h
    split at h <;> cases h

/-! ### non-vacuity -/
example : intoInt IntTy.i128 ⟨100, 2⟩ = .ok (.ok 1) ∧ intoInt IntTy.u8 ⟨25600, 2⟩ = .ok (.error .outOfRange) := by decide +kernel
example : intoInt IntTy.u128 ⟨-15, 1⟩ = .ok (.error .notAnInt) ∧ intoInt IntTy.u128 ⟨-10, 1⟩ = .ok (.error .outOfRange) := by
  decide

/-! ### translated kernels
The Lean definitions `Gen.K.*` are regenerated from the Rust source on every run by `tools/fpkernels.py` (expression-level
translation).  These theorems tie them to the hand-written model the property theorems above are about: a change of the Rust
kernel that changes its translation breaks them. -/
/-- the integer conversions of into_int.rs and from_int.rs (macro bodies instantiated at `i64`), as translated on this run -/
theorem kernel_i128_try_from_decimal (prof : Profile) (d : Dec) :
    Gen.K.i128_try_from_decimal prof d = Kernels.intoResult <$> intoI128 d := Kernels.i128_try_from_decimal_eq prof d
theorem kernel_int_try_from_decimal (prof : Profile) (d : Dec) :
    Gen.K.i64_try_from_decimal prof d = Kernels.intoResult <$> intoInt IntTy.i64 d := Kernels.i64_try_from_decimal_eq prof d
theorem kernel_decimal_from_int (prof : Profile) (i : Int) : Gen.K.decimal_from_int prof i = .ok (fromInt i) :=
  Kernels.decimal_from_int_eq prof i
theorem kernel_decimal_try_from_u128 (prof : Profile) (i : Nat) :
    Gen.K.decimal_try_from_u128 prof i =
      .ok (match tryFromU128 i with | some d => .ok d | none => .error .internalOverflow) :=
  Kernels.decimal_try_from_u128_eq prof i

/-- the associated constants of `Decimal` as extracted from src/lib.rs on this run are the model's (`ZERO`/`ONE` are what the
    translated kernels return for `Self::ZERO` / `Self::ONE`; `MIN ..= MAX` with at most `DELTA`'s digits is the domain `Dom`) -/
theorem decimal_consts :
    Gen.DECIMAL_CONSTS =
      [("ZERO", Dec.ZERO.coeff, Dec.ZERO.nfrac), ("ONE", Dec.ONE.coeff, Dec.ONE.nfrac),
       ("NEG_ONE", Dec.NEG_ONE.coeff, Dec.NEG_ONE.nfrac), ("TWO", Dec.TWO.coeff, Dec.TWO.nfrac),
       ("TEN", Dec.TEN.coeff, Dec.TEN.nfrac), ("MAX", Dec.MAX.coeff, Dec.MAX.nfrac), ("MIN", Dec.MIN.coeff, Dec.MIN.nfrac),
       ("DELTA", Dec.DELTA.coeff, Dec.DELTA.nfrac)] := Kernels.decimal_consts_tie
theorem dom_is_min_max (d : Dec) :
    (Dec.MIN.coeff ≤ d.coeff ∧ d.coeff ≤ Dec.MAX.coeff ∧ d.nfrac ≤ Dec.DELTA.nfrac) ↔ Dom d := Kernels.dom_is_min_max d

/-! ### algebraic laws -/

/-- integer round trip: `T::try_from(Decimal::from(i)) = Ok(i)` for every integer `i` of the type `T` — any integer type
    descriptor, in particular the nine types with `From<T> for Decimal` (u8 … u64, i8 … i128) -/
theorem int_round_trip (t : IntTy) (i : Int) (hi : t.fits i = true) : intoInt t (fromInt i) = .ok (.ok i) := by
  unfold intoInt intoI128 fromInt
  simp [hi]

/-- a value that is not in the target type is rejected with `ValueOutOfRange` (conversion to a narrower type) -/
theorem int_round_trip_out_of_range (t : IntTy) (i : Int) (hi : t.fits i = false) :
    intoInt t (fromInt i) = .ok (.error .outOfRange) := by
  unfold intoInt intoI128 fromInt
  simp [hi]

/-- `u128` (fallible in both directions): `u128::try_from(Decimal::try_from(i)?) = Ok(i)`; the first step fails exactly above
    `i128::MAX` -/
theorem u128_round_trip (i : Nat) (hi : (i : Int) < 340282366920938463463374607431768211456) :
    (tryFromU128 i).map (intoInt IntTy.u128) = if (i : Int) ≤ I128_MAX then some (.ok (.ok (i : Int))) else none := by
  have hf : IntTy.u128.fits (i : Int) = true :=
    (IntTy.fits_iff _ _).mpr ⟨Int.natCast_nonneg i, Int.le_sub_one_of_lt hi⟩
  unfold tryFromU128
  split
  · exact congrArg some (int_round_trip IntTy.u128 i hf)
  · rfl

example : intoInt IntTy.i8 (fromInt (-128)) = .ok (.ok (-128)) ∧ intoInt IntTy.u64 (fromInt 18446744073709551615) = .ok (.ok 18446744073709551615) ∧
    intoInt IntTy.i128 (fromInt I128_MIN) = .ok (.ok I128_MIN) ∧ intoInt IntTy.u8 (fromInt 256) = .ok (.error .outOfRange) := by decide +kernel
example : (tryFromU128 12345678901234567890123).map (intoInt IntTy.u128) = some (.ok (.ok 12345678901234567890123)) ∧
    tryFromU128 (2 ^ 127) = none := by decide +kernel

/-- `T::try_from(d)` depends only on the value: two Decimals of the domain with the same value give the same result — the same
    integer or the same error kind -/
theorem into_int_of_equal_values (t : IntTy) (ht : IsTargetTy t) (x y : Dec) (hx : Dom x) (hy : Dom y)
    (h : Spec.cmp x.coeff x.nfrac y.coeff y.nfrac = .eq) : intoInt t x = intoInt t y := by
  rw [into_int_spec t ht x hx, into_int_spec t ht y hy, eq_of_spec_cmp_eq (spec_intoInt_scale t) h]

/-- in particular trailing fractional zeros do not matter -/
theorem into_int_scaled (t : IntTy) (ht : IsTargetTy t) (a : Int) (p k : Nat) (hx : Dom ⟨a, p⟩)
    (hy : Dom ⟨a * (10 : Int) ^ k, p + k⟩) : intoInt t ⟨a * (10 : Int) ^ k, p + k⟩ = intoInt t ⟨a, p⟩ := by
  rw [into_int_spec t ht _ hy, into_int_spec t ht _ hx, spec_intoInt_scale]

example : intoInt IntTy.i16 ⟨1200, 2⟩ = intoInt IntTy.i16 ⟨12, 0⟩ ∧ intoInt IntTy.u8 ⟨-3000, 3⟩ = intoInt IntTy.u8 ⟨-3, 0⟩ ∧
    intoInt IntTy.i64 ⟨150, 2⟩ = intoInt IntTy.i64 ⟨15, 1⟩ ∧ intoInt IntTy.i64 ⟨15, 1⟩ = .ok (.error .notAnInt) ∧
    Spec.cmp 1200 2 12 0 = .eq := by decide +kernel

end Fpdec.Props.C14
