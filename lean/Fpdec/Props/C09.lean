import Fpdec.Kernels.Cmp
import Fpdec.Kernels.Ratio
import Fpdec.Kernels.Rkyv
import Fpdec.Lemmas.RatioL
import Fpdec.Lemmas.Cmp
import Fpdec.Props.C09_Sites

/-!
# C09 — Hash agrees with equality; as_integer_ratio is the reduced fraction

* `gcd_special_spec`: the specialised Stein gcd returns `gcd(|numer|, 10^e)`; its loop terminates within the
  fuel for every non-zero numerator above `i128::MIN` and every `e ≤ 18` (what `as_integer_ratio` passes on the domain); nothing
  inside panics, in any profile.
* `as_integer_ratio_spec`: `as_integer_ratio`, `numerator`, `denominator` return `Spec.ratio`.
* `ratio_is_reduced`: that pair has a positive denominator, is coprime and has the value of the Decimal — it is the
  reduced fraction.
* `ratio_of_equal_values`, `hash_of_equal_values` (`Fpdec.ratio_congr`, `Fpdec.hash_congr`): equal values in any two
  representations give the same pair, hence `Hash` feeds the same two words to the hasher as the pair itself does: equal Decimals
  hash identically for every `Hasher`.  Only equal values do (`ratio_eq_iff_equal_values`, `as_integer_ratio_eq_iff`,
  `hash_feed_eq_iff`).
-/

namespace Fpdec.Props.C09
open Fpdec Fpdec.Model

theorem gcd_special_spec (prof : Profile) (numer : Int) (e : Nat) (hn : I128_MIN < numer ∧ numer ≤ I128_MAX)
    (hn0 : numer ≠ 0) (he : e ≤ 18) : gcdSpecial prof numer e = .ok (Int.gcd numer ((10 : Int) ^ e) : Int) :=
  gcdSpecial_spec prof numer e hn hn0 (Nat.le_trans he (by decide))

theorem as_integer_ratio_spec (prof : Profile) (d : Dec) (hd : Dom d) :
    asIntegerRatio prof d = .ok (Spec.ratio d.coeff d.nfrac) ∧
    numerator prof d = .ok (Spec.ratio d.coeff d.nfrac).1 ∧ denominator prof d = .ok (Spec.ratio d.coeff d.nfrac).2 :=
  asIntegerRatio_spec prof d hd

theorem ratio_is_reduced (a : Int) (p : Nat) :
    0 < (Spec.ratio a p).2 ∧ Int.gcd (Spec.ratio a p).1 (Spec.ratio a p).2 = 1 ∧
    (Spec.ratio a p).1 * (10 : Int) ^ p = a * (Spec.ratio a p).2 := by
  have hd : (0 : Int) < (10 : Int) ^ p := pow10_pos p
  have hg : 0 < Int.gcd a ((10 : Int) ^ p) := Int.gcd_pos_of_ne_zero_right _ (by omega)
  have hg1 : ((Int.gcd a ((10 : Int) ^ p) : Nat) : Int) ∣ a := Int.gcd_dvd_left _ _
  have hg2 : ((Int.gcd a ((10 : Int) ^ p) : Nat) : Int) ∣ (10 : Int) ^ p := Int.gcd_dvd_right _ _
  show 0 < (10 : Int) ^ p / _ ∧ Int.gcd (a / _) ((10 : Int) ^ p / _) = 1 ∧ a / _ * (10 : Int) ^ p = a * ((10 : Int) ^ p / _)
  refine ⟨?_, Int.gcd_div_gcd_div_gcd hg, ?_⟩
  · exact Int.ediv_pos_of_pos_of_dvd hd (by omega) hg2
  · have hgpos : (0 : Int) < (Int.gcd a ((10 : Int) ^ p) : Int) := by omega
    generalize (Int.gcd a ((10 : Int) ^ p) : Int) = g at *
    obtain ⟨x, hx⟩ := hg1
    obtain ⟨y, hy⟩ := hg2
    have hgne : g ≠ 0 := by omega
    rw [hy, hx, Int.mul_ediv_cancel_left _ hgne, Int.mul_ediv_cancel_left _ hgne]
    ring

theorem ratio_of_equal_values (a : Int) (p : Nat) (b : Int) (q : Nat) (h : Spec.cmp a p b q = .eq) :
    Spec.ratio a p = Spec.ratio b q :=
  ratio_congr a p b q h

/-- equal values feed identical words to any hasher, namely those of the reduced pair -/
theorem hash_of_equal_values (prof : Profile) (x y : Dec) (hx : Dom x) (hy : Dom y)
    (h : Spec.cmp x.coeff x.nfrac y.coeff y.nfrac = .eq) :
    hashFeed prof x = hashFeed prof y ∧
    hashFeed prof x = .ok [(Spec.ratio x.coeff x.nfrac).1, (Spec.ratio x.coeff x.nfrac).2] :=
  hash_congr prof x y hx hy h

/-! ### non-vacuity -/
example : asIntegerRatio Profile.dev ⟨-50, 2⟩ = .ok (-1, 2) ∧ asIntegerRatio Profile.dev ⟨-5, 1⟩ = .ok (-1, 2) := by decide +kernel
example : Spec.cmp 34 1 3400 3 = .eq := by decide +kernel

/-! ### translated kernels
The Lean definitions `Gen.K.*` are regenerated from the Rust source on every run by `tools/fpkernels.py` (expression-level
translation).  These theorems tie them to the hand-written model the property theorems above are about: a change of the Rust
kernel that changes its translation breaks them. -/
/-- `impl PartialEq<Decimal> for Decimal`, as translated on this run -/
theorem kernel_decimal_eq (prof : Profile) (x y : Dec) (hp : x.nfrac < 256) (hq : y.nfrac < 256) :
    Gen.K.decimal_eq prof x y = .ok (decimalEq x y) := Kernels.decimal_eq_eq prof x y hp hq

/-- `gcd_special` (Stein's loop on `i128`) and `Decimal::as_integer_ratio` / `numerator` / `denominator`, as translated on this run;
    the hypothesis excludes only the coefficient `i128::MIN`, which is outside the property's domain -/
theorem kernel_gcd_special (prof : Profile) (numer : Int) (e : Nat) (hn : I128_MIN < numer ∧ numer ≤ I128_MAX) :
    Gen.K.gcd_special prof numer e = gcdSpecial prof numer e := Kernels.gcd_special_eq prof numer e hn
theorem kernel_decimal_as_integer_ratio (prof : Profile) (d : Dec) (hc : I128_MIN < d.coeff ∧ d.coeff ≤ I128_MAX) :
    Gen.K.decimal_as_integer_ratio prof d = asIntegerRatio prof d := Kernels.decimal_as_integer_ratio_eq prof d hc
theorem kernel_decimal_numerator (prof : Profile) (d : Dec) (hc : I128_MIN < d.coeff ∧ d.coeff ≤ I128_MAX) :
    Gen.K.decimal_numerator prof d = numerator prof d := Kernels.decimal_numerator_eq prof d hc
theorem kernel_decimal_denominator (prof : Profile) (d : Dec) (hc : I128_MIN < d.coeff ∧ d.coeff ≤ I128_MAX) :
    Gen.K.decimal_denominator prof d = denominator prof d := Kernels.decimal_denominator_eq prof d hc
/-- end to end: the translated `as_integer_ratio` returns the reduced fraction on the property's whole domain -/
theorem kernel_as_integer_ratio_spec (prof : Profile) (d : Dec) (hd : Dom d) :
    Gen.K.decimal_as_integer_ratio prof d = .ok (Spec.ratio d.coeff d.nfrac) := by
  rw [Kernels.decimal_as_integer_ratio_eq prof d ⟨hd.1, hd.2.1⟩]
  exact (as_integer_ratio_spec prof d hd).1

/-- `impl Hash for Decimal` as translated on this run (read as "what is fed to the Hasher"; a pair of `i128` feeds its two
    components with `write_i128`, `Rt.hashFeedPair`) is the model's `hashFeed` -/
theorem kernel_decimal_hash (prof : Profile) (d : Dec) (hc : I128_MIN < d.coeff ∧ d.coeff ≤ I128_MAX) :
    Gen.K.decimal_hash prof d = hashFeed prof d := Kernels.decimal_hash_eq prof d hc
/-- end to end: the translated `hash` of two equal values feeds the same words to any Hasher — those of the reduced pair -/
theorem kernel_hash_spec (prof : Profile) (x y : Dec) (hx : Dom x) (hy : Dom y)
    (h : Spec.cmp x.coeff x.nfrac y.coeff y.nfrac = .eq) :
    Gen.K.decimal_hash prof x = Gen.K.decimal_hash prof y ∧
    Gen.K.decimal_hash prof x = .ok [(Spec.ratio x.coeff x.nfrac).1, (Spec.ratio x.coeff x.nfrac).2] := by
  rw [Kernels.decimal_hash_eq prof x ⟨hx.1, hx.2.1⟩, Kernels.decimal_hash_eq prof y ⟨hy.1, hy.2.1⟩]
  exact hash_congr prof x y hx hy h

/-! ### algebraic laws -/

/-- `Decimal::from(i).as_integer_ratio() = (i, 1)` for every integer `i` and every profile (nothing is computed) -/
theorem ratio_of_int (prof : Profile) (i : Int) :
    asIntegerRatio prof (fromInt i) = .ok (i, 1) ∧ numerator prof (fromInt i) = .ok i ∧ denominator prof (fromInt i) = .ok 1 := by
  unfold asIntegerRatio numerator denominator fromInt
  simp

theorem ratio_of_integral (prof : Profile) (d : Dec) (h : d.nfrac = 0 ∨ d.coeff = 0) : asIntegerRatio prof d = .ok (d.coeff, 1) := by
  unfold asIntegerRatio
  simp [h]

/-- `as_integer_ratio_spec` and `ratio_is_reduced` in one statement that does not mention `Spec.ratio` -/
theorem as_integer_ratio_reduced (prof : Profile) (d : Dec) (hd : Dom d) :
    ∃ n dn : Int, asIntegerRatio prof d = .ok (n, dn) ∧ numerator prof d = .ok n ∧ denominator prof d = .ok dn ∧
      n * (10 : Int) ^ d.nfrac = d.coeff * dn ∧ 0 < dn ∧ Int.gcd n dn = 1 := by
  obtain ⟨h1, h2, h3⟩ := as_integer_ratio_spec prof d hd
  obtain ⟨r1, r2, r3⟩ := ratio_is_reduced d.coeff d.nfrac
  exact ⟨_, _, h1, h2, h3, r3, r1, r2⟩

example : asIntegerRatio Profile.dev (fromInt (-7)) = .ok (-7, 1) ∧ asIntegerRatio Profile.release (fromInt I128_MIN) = .ok (I128_MIN, 1) ∧
    asIntegerRatio Profile.dev ⟨0, 5⟩ = .ok (0, 1) ∧ asIntegerRatio Profile.dev ⟨-50, 2⟩ = .ok (-1, 2) ∧
    (-1 : Int) * 10 ^ 2 = -50 * 2 ∧ asIntegerRatio Profile.dev ⟨340, 2⟩ = asIntegerRatio Profile.dev ⟨34, 1⟩ := by decide +kernel

/-- `Spec.ratio` is a complete invariant of the value -/
theorem ratio_eq_iff_equal_values (a : Int) (p : Nat) (b : Int) (q : Nat) :
    Spec.ratio a p = Spec.ratio b q ↔ Spec.cmp a p b q = .eq := by
  refine ⟨fun h => ?_, ratio_of_equal_values a p b q⟩
  obtain ⟨d1, _, v1⟩ := ratio_is_reduced a p
  obtain ⟨_, _, v2⟩ := ratio_is_reduced b q
  rw [← h] at v2
  rw [spec_cmp_eq_iff]
  -- n·P = a·d, n·Q = b·d ⊢ a·Q = b·P: cancel d
  refine Int.eq_of_mul_eq_mul_right (Int.ne_of_gt d1) ?_
  linear_combination (-(10 : Int) ^ q) * v1 + (10 : Int) ^ p * v2

theorem as_integer_ratio_eq_iff (prof : Profile) (x y : Dec) (hx : Dom x) (hy : Dom y) :
    asIntegerRatio prof x = asIntegerRatio prof y ↔ Spec.cmp x.coeff x.nfrac y.coeff y.nfrac = .eq := by
  rw [(as_integer_ratio_spec prof x hx).1, (as_integer_ratio_spec prof y hy).1, ← ratio_eq_iff_equal_values]
  exact ⟨fun h => by injection h, congrArg _⟩

/-- the words fed to the hasher are the same exactly for equal values: the feed itself is collision-free -/
theorem hash_feed_eq_iff (prof : Profile) (x y : Dec) (hx : Dom x) (hy : Dom y) :
    hashFeed prof x = hashFeed prof y ↔ Spec.cmp x.coeff x.nfrac y.coeff y.nfrac = .eq := by
  refine ⟨fun h => ?_, fun h => (hash_of_equal_values prof x y hx hy h).1⟩
  rw [hashFeed_spec prof x hx, hashFeed_spec prof y hy] at h
  injection h with h
  injection h with h1 h
  injection h with h2 _
  exact (ratio_eq_iff_equal_values _ _ _ _).mp (Prod.ext h1 h2)

example : asIntegerRatio Profile.dev ⟨340, 2⟩ ≠ asIntegerRatio Profile.dev ⟨35, 1⟩ ∧ Spec.cmp 340 2 35 1 ≠ .eq ∧
    Spec.ratio 340 2 = Spec.ratio 34 1 ∧ Spec.cmp 340 2 34 1 = .eq ∧
    hashFeed Profile.dev ⟨340, 2⟩ ≠ hashFeed Profile.dev ⟨35, 1⟩ := by decide +kernel

end Fpdec.Props.C09
