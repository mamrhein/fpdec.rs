import Fpdec.Kernels.MulDiv
import Fpdec.Kernels.Round
import Fpdec.Lemmas.WideRound
import Fpdec.Lemmas.IntTy
import Fpdec.Props.C02_Sites

/-!
# C02 — Multiplication is exact up to 18 digits, else correctly rounded

`mul_spec`, `checked_mul_spec`, `mul_int_spec`, `checked_mul_int_spec`: for ALL operands of the domain, all eight thread
modes and every build profile the model of `*`, `checked_mul` and the integer-operand forms returns what `Spec.mul` /
`Spec.checkedMul` / `Spec.mulInt` allow: zero / one short cuts, the exact product with `p+q` digits when `p+q ≤ 18`,
else the exact product rounded once to 18 digits (narrow path `i128_div_rounded` and wide path
`i256_div_mod_floor` + `round_quot`), overflow signalled exactly when the result coefficient does not fit.

The wide path is proved relative to `WideMul` (the specification of `i256_div_mod_floor`, see C16); `Props/C16.lean`
discharges it.
-/

namespace Fpdec.Props.C02
open Fpdec Fpdec.Model

/-- specification of `i256_div_mod_floor` for a positive divisor (proved in `Lemmas/Wide.lean`, C16) -/
def WideMul : Prop :=
  ∀ (prof : Profile) (x1 x2 y : Int), (I128_MIN < x1 ∧ x1 ≤ I128_MAX) → (I128_MIN < x2 ∧ x2 ≤ I128_MAX) →
    (0 < y ∧ y ≤ I128_MAX) →
    i256DivModFloor prof x1 x2 y =
      .ok (if ((x1 * x2).natAbs / y.natAbs : Nat) ≤ I128_MAX.toNat then some ((x1 * x2) / y, (x1 * x2) % y) else none)

/-- the rounding core shared by `*` and `mul_rounded` -/
def specMulCore (tm : Mode) (a : Int) (p : Nat) (b : Int) (q : Nat) (n : Nat) : Spec.Exp :=
  if n ≥ p + q then Spec.valFitSharp (a * b) (p + q)
  else Spec.valFit (Spec.specRound tm (a * b) ((10 : Int) ^ (p + q - n))) n

theorem specMulCore_valOvf (tm : Mode) (a : Int) (p : Nat) (b : Int) (q n : Nat) : (specMulCore tm a p b q n).ValOvf :=
  .ite (valFitSharp_valOvf _ _) (valFit_valOvf _ _)

theorem checkedMulRounded_exact (prof : Profile) (tm : Mode) (x y : Dec) (n : Nat) (hpq : x.nfrac + y.nfrac ≤ n)
    (h : x.nfrac + y.nfrac ≤ 255) :
    checkedMulRounded prof tm x y n = .ok (do
      let c ← checkedI128 (x.coeff * y.coeff)
      pure ⟨c, x.nfrac + y.nfrac⟩) := by
  have hu := plainU8_add prof x.nfrac y.nfrac (by omega)
  unfold checkedMulRounded
  simp only [hu, Outcome.bind_ok, show n ≥ x.nfrac + y.nfrac from hpq, if_true]
  cases checkedI128 (x.coeff * y.coeff) <;> rfl

/-- what `checked_mul_rounded` returns for the exact product `N` with `s` digits, rounded to `n`: no profile, no operand order -/
def mulRoundedVal (tm : Mode) (N : Int) (s n : Nat) : Option Dec :=
  if n ≥ s then do
    let c ← checkedI128 N
    pure ⟨c, s⟩
  else if fitsI128 N = true then some ⟨Spec.specRound tm N ((10 : Int) ^ (s - n)), n⟩
  else
    (if (N.natAbs / ((10 : Int) ^ (s - n)).natAbs : Nat) ≤ I128_MAX.toNat
      then some (N / (10 : Int) ^ (s - n), N % (10 : Int) ^ (s - n)) else none).bind fun qr =>
      (roundQuot tm qr.1 (IntTy.u128.cast qr.2).toNat (IntTy.u128.cast ((10 : Int) ^ (s - n))).toNat none).map fun c => (⟨c, n⟩ : Dec)

theorem checkedMulRounded_eq (hw : WideMul) (prof : Profile) (tm : Mode) (x y : Dec) (n : Nat) (hx : Dom x) (hy : Dom y) :
    checkedMulRounded prof tm x y n = .ok (mulRoundedVal tm (x.coeff * y.coeff) (x.nfrac + y.nfrac) n) := by
  have hp := hx.2.2
  have hq := hy.2.2
  by_cases h1 : n ≥ x.nfrac + y.nfrac
  · rw [checkedMulRounded_exact prof tm x y n h1 (by omega), mulRoundedVal, if_pos h1]
  have hu := plainU8_add prof x.nfrac y.nfrac (by omega)
  have hsh : x.nfrac + y.nfrac - n ≤ 38 := by omega
  have hpw := pow10_pos (x.nfrac + y.nfrac - n)
  have hpl := pow10_le_max hsh
  unfold checkedMulRounded
  simp only [hu, Outcome.bind_ok, if_neg h1, mulRoundedVal]
  cases hh : fitsI128 (x.coeff * y.coeff)
  · -- the product needs more than 128 bits
    rw [checkedI128_none hh]
    simp only [i128MulDivTenPowRounded, tenPow_ok _ hsh, Outcome.bind_ok,
      hw prof x.coeff y.coeff _ ⟨hx.1, hx.2.1⟩ ⟨hy.1, hy.2.1⟩ ⟨hpw, hpl⟩, Bool.false_eq_true, if_false]
    by_cases ht : ((x.coeff * y.coeff).natAbs / ((10 : Int) ^ (x.nfrac + y.nfrac - n)).natAbs : Nat) ≤ I128_MAX.toNat
    · simp only [if_pos ht, Option.bind_some]
      cases roundQuot tm _ _ _ none <;> rfl
    · simp only [if_neg ht]
      rfl
  · rw [checkedI128_some hh]
    simp only [tenPow_ok _ hsh, Outcome.bind_ok, i128DivRounded_pos prof tm none _ _ hh hpw hpl, Option.getD_none, if_true]
    rfl

/-- `checked_mul_rounded(x, y, n)` for `n ≤ 18` -/
theorem checkedMulRounded_spec (hw : WideMul) (prof : Profile) (tm : Mode) (x y : Dec) (n : Nat)
    (hx : Dom x) (hy : Dom y) (hn : n ≤ 18) :
    Spec.allowedChecked (specMulCore tm x.coeff x.nfrac y.coeff y.nfrac n)
      (outOptPair (checkedMulRounded prof tm x y n)) = true := by
  have hsh : x.nfrac + y.nfrac - n ≤ 38 := by have := hx.2.2; have := hy.2.2; omega
  rw [checkedMulRounded_eq hw prof tm x y n hx hy]
  unfold mulRoundedVal specMulCore
  split
  · exact valFitSharp_checked _ _
  split
  · next hf => exact valFit_some _ _ (specRound_fits tm _ _ hf (pow10_pos _))
  · exact wide_tail tm _ _ n (pow10_pos _) (pow10_le_max hsh)

/-- `*` with its three short cuts spelled as propositions -/
theorem mul_eq (prof : Profile) (tm : Mode) (x y : Dec) (hp : x.nfrac ≤ 18) (hq : y.nfrac ≤ 18) :
    mul prof tm x y =
      if x.coeff = 0 ∨ y.coeff = 0 then .ok Dec.ZERO
      else if y.coeff = (10 : Int) ^ y.nfrac then .ok x
      else if x.coeff = (10 : Int) ^ x.nfrac then .ok y
      else panicOnNone (checkedMulRounded prof tm x y 18) := by
  unfold mul
  simp only [eqOne_eq x hp, eqOne_eq y hq, eqZero_or, max_nfrac, Outcome.bind_ok, decide_eq_true_eq]
  rw [← bind_panicOnNone]
  rfl

/-- what `checked_mul` computes when no short cut applies: the exact product, `None` past 18 digits -/
def exactProduct (x y : Dec) : Option Dec :=
  if x.nfrac + y.nfrac > 18 then none else do
    let c ← checkedI128 (x.coeff * y.coeff)
    pure ⟨c, x.nfrac + y.nfrac⟩

theorem checkedMul_eq (prof : Profile) (x y : Dec) (hp : x.nfrac ≤ 18) (hq : y.nfrac ≤ 18) :
    checkedMul prof x y =
      .ok (if x.coeff = 0 ∨ y.coeff = 0 then some Dec.ZERO
        else if y.coeff = (10 : Int) ^ y.nfrac then some x
        else if x.coeff = (10 : Int) ^ x.nfrac then some y
        else exactProduct x y) := by
  have hu := plainU8_add prof x.nfrac y.nfrac (by omega)
  unfold checkedMul exactProduct
  simp only [eqOne_eq x hp, eqOne_eq y hq, eqZero_or, max_nfrac, Outcome.bind_ok, decide_eq_true_eq, hu, Outcome.pure_eq,
    apply_ite Outcome.ok]
  cases checkedI128 (x.coeff * y.coeff) <;> rfl

/-- `x * y` (all reference forms and `*=` forward to this body) -/
theorem mul_spec (hw : WideMul) (prof : Profile) (tm : Mode) (x y : Dec) (hx : Dom x) (hy : Dom y) :
    Spec.allowedOp (Spec.mul tm x.coeff x.nfrac y.coeff y.nfrac) (outPair (mul prof tm x y)) = true := by
  rw [mul_eq prof tm x y hx.2.2 hy.2.2]
  unfold Spec.mul
  simp only [isOne_eq, decide_eq_true_eq]
  refine allowedOp_ite (fun _ => rfl) fun _ => ?_
  refine allowedOp_ite (fun _ => allowedOp_val_self x) fun _ => ?_
  refine allowedOp_ite (fun _ => allowedOp_val_self y) fun _ => ?_
  exact allowedOp_panicOnNone (specMulCore_valOvf tm _ _ _ _ 18) (checkedMulRounded_spec hw prof tm x y 18 hx hy (Nat.le_refl _))

/-- `checked_mul`: exact product or `None`; `None` also for `p + q > 18`; never rounded, never a panic -/
theorem checked_mul_spec (prof : Profile) (x y : Dec) (hx : Dom x) (hy : Dom y) :
    Spec.allowedChecked (Spec.checkedMul x.coeff x.nfrac y.coeff y.nfrac) (outOptPair (checkedMul prof x y)) = true := by
  rw [checkedMul_eq prof x y hx.2.2 hy.2.2]
  unfold Spec.checkedMul exactProduct
  simp only [isOne_eq, decide_eq_true_eq, apply_ite Outcome.ok]
  refine allowedChecked_ite (fun _ => rfl) fun _ => ?_
  refine allowedChecked_ite (fun _ => allowedChecked_val_self x) fun _ => ?_
  refine allowedChecked_ite (fun _ => allowedChecked_val_self y) fun _ => ?_
  split
  · rfl
  · exact valFitSharp_checked _ _

/-- the integer shapes (`Decimal * int`, `int * Decimal`): the operator is the checked variant with `None` turned into the
    overflow panic, no condition at all -/
theorem mul_int_eq_checked (d : Dec) (i : Int) : mulInt d i = panicOnNone (.ok (checkedMulInt d i)) := by
  unfold mulInt checkedMulInt
  cases checkedI128 (d.coeff * i) <;> rfl

theorem checked_mul_int_spec (d : Dec) (i : Int) :
    Spec.allowedChecked (Spec.mulInt d.coeff d.nfrac i) (outOptPair (.ok (checkedMulInt d i))) = true :=
  valFitSharp_checked _ _

/-- Decimal × integer (either position, 9 integer types): exact, the Decimal's scale, overflow iff it does not fit -/
theorem mul_int_spec (d : Dec) (i : Int) :
    Spec.allowedOp (Spec.mulInt d.coeff d.nfrac i) (outPair (mulInt d i)) = true := by
  rw [mul_int_eq_checked]
  exact allowedOp_panicOnNone (valFitSharp_valOvf _ _) (checked_mul_int_spec d i)

/-! ### non-vacuity -/
example : mul Profile.dev .heven ⟨15, 1⟩ ⟨25, 2⟩ = .ok ⟨375, 3⟩ := by decide +kernel
example : mul Profile.release .heven ⟨1000000000000000005, 18⟩ ⟨15, 1⟩ = .ok ⟨1500000000000000008, 18⟩ := by decide +kernel
example : mul Profile.dev .heven Dec.MAX ⟨2, 0⟩ = .panic .overflow ∧ checkedMul Profile.dev ⟨1, 10⟩ ⟨3, 9⟩ = .ok none := by decide +kernel

/-! ### translated kernels
The Lean definitions `Gen.K.*` are regenerated from the Rust source on every run by `tools/fpkernels.py` (expression-level
translation).  These theorems tie them to the hand-written model the property theorems above are about: a change of the Rust
kernel that changes its translation breaks them. -/
theorem kernel_i128_div_mod_floor (prof : Profile) (x y : Int) :
    Gen.K.i128_div_mod_floor prof x y = i128DivModFloor prof x y := Kernels.i128_div_mod_floor_eq prof x y
theorem kernel_round_quot (prof : Profile) (tm : Mode) (quot : Int) (rem divisor : Nat) (mode : Option Mode)
    (hq : fitsI128 quot = true) :
    Gen.K.round_quot prof tm quot rem divisor mode = .ok (roundQuot tm quot rem divisor mode) :=
  Kernels.round_quot_eq prof tm quot rem divisor mode hq
theorem kernel_u128_mul_u128 (prof : Profile) (x y : Nat) :
    Gen.K.u128_mul_u128 prof x y = u128MulU128 prof x y := Kernels.u128_mul_u128_eq prof x y

theorem kernel_ten_pow (prof : Profile) (n : Nat) : Gen.K.ten_pow prof n = tenPow n := Kernels.ten_pow_eq prof n
theorem kernel_mul_pow_ten (prof : Profile) (val : Int) (n : Nat) : Gen.K.mul_pow_ten prof val n = mulPowTen val n :=
  Kernels.mul_pow_ten_eq prof val n
theorem kernel_checked_mul_pow_ten (prof : Profile) (val : Int) (n : Nat) :
    Gen.K.checked_mul_pow_ten prof val n = .ok (checkedMulPowTen val n) := Kernels.checked_mul_pow_ten_eq prof val n
theorem kernel_i128_div_rounded (prof : Profile) (tm : Mode) (a b : Int) (mode : Option Mode) (ha : fitsI128 a = true) :
    Gen.K.i128_div_rounded prof tm a b mode = i128DivRounded prof tm a b mode :=
  Kernels.i128_div_rounded_eq prof tm a b mode ha
theorem kernel_i128_shifted_div_rounded (prof : Profile) (tm : Mode) (a : Int) (p : Nat) (b : Int) (mode : Option Mode) :
    Gen.K.i128_shifted_div_rounded prof tm a p b mode = i128ShiftedDivRounded prof tm a p b mode :=
  Kernels.i128_shifted_div_rounded_eq prof tm a p b mode
theorem kernel_i128_mul_div_ten_pow_rounded (prof : Profile) (tm : Mode) (x y : Int) (p : Nat) (mode : Option Mode) :
    Gen.K.i128_mul_div_ten_pow_rounded prof tm x y p mode = i128MulDivTenPowRounded prof tm x y p mode :=
  Kernels.i128_mul_div_ten_pow_rounded_eq prof tm x y p mode

theorem kernel_checked_mul_rounded (prof : Profile) (tm : Mode) (x y : Dec) (n : Nat) (hn : n < 256) :
    Gen.K.checked_mul_rounded prof tm x y n = checkedMulRounded prof tm x y n :=
  Kernels.checked_mul_rounded_eq prof tm x y n hn

/-- the Decimal-by-Decimal operator bodies of mul.rs, checked_mul.rs and mul_rounded.rs, as translated on this run -/
theorem kernel_decimal_mul (prof : Profile) (tm : Mode) (x y : Dec) : Gen.K.decimal_mul prof tm x y = mul prof tm x y :=
  Kernels.decimal_mul_eq prof tm x y
theorem kernel_decimal_checked_mul (prof : Profile) (x y : Dec) : Gen.K.decimal_checked_mul prof x y = checkedMul prof x y :=
  Kernels.decimal_checked_mul_eq prof x y
theorem kernel_decimal_mul_rounded (prof : Profile) (tm : Mode) (x y : Dec) (n : Nat) (hn : n < 256) :
    Gen.K.decimal_mul_rounded prof tm x y n = mulRounded prof tm x y n := Kernels.decimal_mul_rounded_eq prof tm x y n hn

/-- the integer forms of `*` and `checked_mul` (both operand orders), as translated on this run -/
theorem kernel_decimal_mul_int (prof : Profile) (d : Dec) (i : Int) : Gen.K.decimal_mul_int prof d i = mulInt d i :=
  Kernels.decimal_mul_int_eq prof d i
theorem kernel_int_mul_decimal (prof : Profile) (i : Int) (d : Dec) : Gen.K.int_mul_decimal prof i d = mulInt d i :=
  Kernels.int_mul_decimal_eq prof i d
theorem kernel_decimal_checked_mul_int (prof : Profile) (d : Dec) (i : Int) :
    Gen.K.decimal_checked_mul_int prof d i = .ok (checkedMulInt d i) := Kernels.decimal_checked_mul_int_eq prof d i
theorem kernel_int_checked_mul_decimal (prof : Profile) (i : Int) (d : Dec) :
    Gen.K.int_checked_mul_decimal prof i d = .ok (checkedMulInt d i) := Kernels.int_checked_mul_decimal_eq prof i d

/-! ### algebraic laws
Model-level corollaries: equalities of `Outcome` values, so the two sides also panic together (and with the same panic kind). -/

theorem checkedMulRounded_comm (hw : WideMul) (prof : Profile) (tm : Mode) (x y : Dec) (n : Nat) (hx : Dom x) (hy : Dom y) :
    checkedMulRounded prof tm x y n = checkedMulRounded prof tm y x n := by
  rw [checkedMulRounded_eq hw prof tm x y n hx hy, checkedMulRounded_eq hw prof tm y x n hy hx, Int.mul_comm, Nat.add_comm]

/-- `x * y = y * x`, as outcomes, unless BOTH operands are representations of one with different numbers of fractional digits
    (see `mul_ones`: the short cuts then return the LEFT operand, e.g. `1.0 * 1 = 1.0` but `1 * 1.0 = 1`) -/
theorem mul_commutes (hw : WideMul) (prof : Profile) (tm : Mode) (x y : Dec) (hx : Dom x) (hy : Dom y)
    (h11 : x.coeff = (10 : Int) ^ x.nfrac → y.coeff = (10 : Int) ^ y.nfrac → x.nfrac = y.nfrac) :
    mul prof tm x y = mul prof tm y x := by
  rw [mul_eq prof tm x y hx.2.2 hy.2.2, mul_eq prof tm y x hy.2.2 hx.2.2, checkedMulRounded_comm hw prof tm x y 18 hx hy]
  by_cases h0 : x.coeff = 0 ∨ y.coeff = 0
  · rw [if_pos h0, if_pos h0.symm]
  rw [if_neg h0, if_neg (c := y.coeff = 0 ∨ x.coeff = 0) (fun h => h0 h.symm)]
  by_cases hb : y.coeff = (10 : Int) ^ y.nfrac <;> by_cases ha : x.coeff = (10 : Int) ^ x.nfrac
  · rw [if_pos hb, if_pos ha]
    obtain ⟨a, p⟩ := x; obtain ⟨b, q⟩ := y
    cases h11 ha hb
    rw [show a = b from ha.trans hb.symm]
  · rw [if_pos hb, if_neg ha, if_pos hb]
  · rw [if_neg hb, if_pos ha, if_pos ha]
  · rw [if_neg hb, if_neg ha, if_neg ha, if_neg hb]

/-- a right operand that is any representation of one: the short cut returns `x`, after the zero test -/
theorem mul_one_any (prof : Profile) (tm : Mode) (x y : Dec) (hq : y.nfrac ≤ 18) (hy : y.coeff = (10 : Int) ^ y.nfrac) :
    mul prof tm x y = .ok (if x.coeff = 0 then Dec.ZERO else x) := by
  have hy0 : ¬ (10 : Int) ^ y.nfrac = 0 := Int.ne_of_gt (pow10_pos _)
  unfold mul
  simp only [eqZero]
  rw [eqOne_eq y hq]
  by_cases h0 : x.coeff = 0 <;> simp [h0, hy, hy0]

/-- both operands representations of one: the short cut returns the left operand, whatever the right one's digits -/
theorem mul_ones (prof : Profile) (tm : Mode) (p q : Nat) (hq : q ≤ 18) :
    mul prof tm ⟨(10 : Int) ^ p, p⟩ ⟨(10 : Int) ^ q, q⟩ = .ok ⟨(10 : Int) ^ p, p⟩ := by
  rw [mul_one_any prof tm _ ⟨(10 : Int) ^ q, q⟩ hq rfl, if_neg (Int.ne_of_gt (pow10_pos p))]

/-- `x * 1`: `x` itself — except that every zero is returned as `Decimal::ZERO` (the zero test comes first); every `x` -/
theorem mul_one_right (prof : Profile) (tm : Mode) (x : Dec) :
    mul prof tm x Dec.ONE = .ok (if x.coeff = 0 then Dec.ZERO else x) :=
  mul_one_any prof tm x Dec.ONE (by decide) (by decide)

/-- `1 * x`: `x` itself — except that every zero is returned as `Decimal::ZERO` and every representation of one as
    `Decimal::ONE` (the test `eq_one(other)` precedes `eq_one(self)`: `1 * 1.00 = 1`, while `1.00 * 1 = 1.00`) -/
theorem mul_one_left (prof : Profile) (tm : Mode) (x : Dec) (hx : Dom x) :
    mul prof tm Dec.ONE x =
      .ok (if x.coeff = 0 then Dec.ZERO else if x.coeff = (10 : Int) ^ x.nfrac then Dec.ONE else x) := by
  rw [mul_eq prof tm Dec.ONE x (by decide) hx.2.2]
  simp only [apply_ite Outcome.ok]
  refine ite_congr (propext ⟨fun h => h.resolve_left (by decide), .inr⟩) (fun _ => rfl) fun _ => ?_
  refine ite_congr rfl (fun _ => rfl) fun _ => ?_
  exact if_pos (by decide)

/-- `x * 0 = 0 * x = Decimal::ZERO` for every `x` and every representation of zero (nothing else is evaluated) -/
theorem mul_zero_any (prof : Profile) (tm : Mode) (x z : Dec) (hz : z.coeff = 0) :
    mul prof tm x z = .ok Dec.ZERO ∧ mul prof tm z x = .ok Dec.ZERO := by
  unfold mul
  simp [eqZero, hz]

example : mul Profile.dev .heven ⟨-15, 1⟩ ⟨25, 2⟩ = .ok ⟨-375, 3⟩ ∧ mul Profile.dev .heven ⟨25, 2⟩ ⟨-15, 1⟩ = .ok ⟨-375, 3⟩ := by
  decide
example : mul Profile.release .heven ⟨1000000000000000005, 18⟩ ⟨15, 1⟩ = .ok ⟨1500000000000000008, 18⟩ ∧
    mul Profile.release .heven ⟨15, 1⟩ ⟨1000000000000000005, 18⟩ = .ok ⟨1500000000000000008, 18⟩ := by decide +kernel
-- the counter-example to unrestricted commutativity: both operands are ones
example : mul Profile.dev .heven ⟨10, 1⟩ ⟨1, 0⟩ = .ok ⟨10, 1⟩ ∧ mul Profile.dev .heven ⟨1, 0⟩ ⟨10, 1⟩ = .ok ⟨1, 0⟩ := by decide +kernel
example : mul Profile.dev .up ⟨-25, 1⟩ Dec.ONE = .ok ⟨-25, 1⟩ ∧ mul Profile.dev .up Dec.ONE ⟨-25, 1⟩ = .ok ⟨-25, 1⟩ ∧
    mul Profile.dev .up ⟨0, 3⟩ Dec.ONE = .ok ⟨0, 0⟩ ∧ mul Profile.dev .up Dec.ONE ⟨100, 2⟩ = .ok ⟨1, 0⟩ ∧
    mul Profile.dev .up ⟨100, 2⟩ Dec.ONE = .ok ⟨100, 2⟩ := by decide +kernel
example : mul Profile.release .down ⟨-25, 1⟩ ⟨0, 7⟩ = .ok Dec.ZERO ∧ mul Profile.release .down Dec.ZERO ⟨I128_MAX, 18⟩ = .ok Dec.ZERO := by
  decide

/-! ### algebraic laws: `checked_mul` against `*`
`checked_mul` never rounds: it returns `None` as soon as `p + q > 18` (after the zero / one short cuts), where `*` returns the
product rounded to 18 digits.  So the two agree — the operator is the checked variant with `None` turned into the overflow panic —
exactly on the operands for which nothing has to be rounded; in general only `Some(r)` carries over to the operator. -/

/-- the operands on which `*` is exact by construction: a zero, a one, or at most 18 digits in the product -/
def MulExact (x y : Dec) : Prop :=
  x.coeff = 0 ∨ y.coeff = 0 ∨ y.coeff = (10 : Int) ^ y.nfrac ∨ x.coeff = (10 : Int) ^ x.nfrac ∨ x.nfrac + y.nfrac ≤ 18

instance (x y : Dec) : Decidable (MulExact x y) := by unfold MulExact; infer_instance

/-- on those operands `x * y` is `x.checked_mul(y)` with `None` replaced by the overflow panic (every mode, every profile) -/
theorem mul_eq_checked (prof : Profile) (tm : Mode) (x y : Dec) (hp : x.nfrac ≤ 18) (hq : y.nfrac ≤ 18) (h : MulExact x y) :
    mul prof tm x y = panicOnNone (checkedMul prof x y) := by
  rw [mul_eq prof tm x y hp hq, checkedMul_eq prof x y hp hq]
  simp only [apply_ite fun o => panicOnNone (.ok o)]
  refine ite_congr rfl (fun _ => rfl) fun h0 => ?_
  refine ite_congr rfl (fun _ => rfl) fun h1 => ?_
  refine ite_congr rfl (fun _ => rfl) fun h2 => ?_
  have hpq : x.nfrac + y.nfrac ≤ 18 :=
    (((h.resolve_left fun h => h0 (.inl h)).resolve_left fun h => h0 (.inr h)).resolve_left h1).resolve_left h2
  rw [checkedMulRounded_exact prof tm x y 18 hpq (by omega), exactProduct, if_neg (by omega)]

theorem checked_mul_no_panic (prof : Profile) (x y : Dec) (hx : Dom x) (hy : Dom y) : ∃ o, checkedMul prof x y = .ok o :=
  ⟨_, checkedMul_eq prof x y hx.2.2 hy.2.2⟩

/-- beyond 18 digits in the product (no short cut): `None`, whatever the operands -/
theorem checked_mul_none_of_digits (prof : Profile) (x y : Dec) (hx : Dom x) (hy : Dom y) (h : ¬ MulExact x y) :
    checkedMul prof x y = .ok none := by
  simp only [MulExact, not_or] at h
  rw [checkedMul_eq prof x y hx.2.2 hy.2.2, if_neg (fun hh => hh.elim h.1 h.2.1), if_neg h.2.2.1, if_neg h.2.2.2.1, exactProduct,
    if_pos (by omega)]

/-- `Some(r)` always carries over: the operator then returns `r` (all operands of the domain, every mode) -/
theorem checked_mul_some_imp (prof : Profile) (tm : Mode) (x y r : Dec) (hx : Dom x) (hy : Dom y)
    (h : checkedMul prof x y = .ok (some r)) : mul prof tm x y = .ok r := by
  by_cases he : MulExact x y
  · rw [mul_eq_checked prof tm x y hx.2.2 hy.2.2 he, h]; rfl
  · rw [checked_mul_none_of_digits prof x y hx hy he] at h
    simp at h

/-- where nothing is rounded: `Some(r)` exactly when the operator returns `r` … -/
theorem checked_mul_some_iff (prof : Profile) (tm : Mode) (x y r : Dec) (hx : Dom x) (hy : Dom y) (he : MulExact x y) :
    checkedMul prof x y = .ok (some r) ↔ mul prof tm x y = .ok r := by
  rw [mul_eq_checked prof tm x y hx.2.2 hy.2.2 he, panicOnNone_eq_ok_iff]

/-- … and `None` exactly when the operator panics, the panic being the overflow panic -/
theorem checked_mul_none_iff (prof : Profile) (tm : Mode) (x y : Dec) (hx : Dom x) (hy : Dom y) (he : MulExact x y) :
    checkedMul prof x y = .ok none ↔ mul prof tm x y = .panic .overflow := by
  rw [mul_eq_checked prof tm x y hx.2.2 hy.2.2 he, panicOnNone_eq_panic_iff (checked_mul_no_panic prof x y hx hy)]
  exact (and_iff_left rfl).symm

theorem mul_exact_panic_kind (prof : Profile) (tm : Mode) (x y : Dec) (k : PanicKind) (hx : Dom x) (hy : Dom y) (he : MulExact x y)
    (h : mul prof tm x y = .panic k) : k = .overflow := by
  rw [mul_eq_checked prof tm x y hx.2.2 hy.2.2 he, panicOnNone_eq_panic_iff (checked_mul_no_panic prof x y hx hy)] at h
  exact h.2

theorem checked_mul_int_some_iff (d r : Dec) (i : Int) : checkedMulInt d i = some r ↔ mulInt d i = .ok r := by
  rw [mul_int_eq_checked, panicOnNone_eq_ok_iff, Outcome.ok.injEq]

theorem checked_mul_int_none_iff (d : Dec) (i : Int) : checkedMulInt d i = none ↔ mulInt d i = .panic .overflow := by
  rw [mul_int_eq_checked, panicOnNone_eq_panic_iff ⟨_, rfl⟩, Outcome.ok.injEq]
  exact (and_iff_left rfl).symm

example : checkedMul Profile.dev ⟨-15, 1⟩ ⟨25, 2⟩ = .ok (some ⟨-375, 3⟩) ∧ mul Profile.dev .heven ⟨-15, 1⟩ ⟨25, 2⟩ = .ok ⟨-375, 3⟩ ∧
    checkedMul Profile.dev Dec.MAX ⟨2, 0⟩ = .ok none ∧ mul Profile.dev .heven Dec.MAX ⟨2, 0⟩ = .panic .overflow ∧
    checkedMul Profile.release ⟨5, 18⟩ ⟨100, 2⟩ = .ok (some ⟨5, 18⟩) ∧ mul Profile.release .up ⟨5, 18⟩ ⟨100, 2⟩ = .ok ⟨5, 18⟩ := by decide +kernel
-- the counter-example to unrestricted agreement: 19 digits in the product — `None` against the rounded product
example : ¬ MulExact ⟨15, 10⟩ ⟨3, 9⟩ ∧ checkedMul Profile.dev ⟨15, 10⟩ ⟨3, 9⟩ = .ok none ∧
    mul Profile.dev .heven ⟨15, 10⟩ ⟨3, 9⟩ = .ok ⟨4, 18⟩ ∧ mul Profile.dev .up ⟨15, 10⟩ ⟨3, 9⟩ = .ok ⟨5, 18⟩ := by decide +kernel
example : checkedMulInt ⟨-15, 1⟩ 3 = some ⟨-45, 1⟩ ∧ mulInt ⟨-15, 1⟩ 3 = .ok ⟨-45, 1⟩ ∧
    checkedMulInt Dec.MAX 2 = none ∧ mulInt Dec.MAX 2 = .panic .overflow := by decide +kernel

/-! ### algebraic laws: `*` is exact up to 18 digits -/

/-- the four ways `x * y` produces a result when `p + q ≤ 18`: a zero, the other operand next to a one, or the exact product of the
    coefficients with `p + q` digits (nothing is ever rounded there) -/
theorem mul_exact_cases (prof : Profile) (tm : Mode) (x y r : Dec) (hpq : x.nfrac + y.nfrac ≤ 18)
    (h : mul prof tm x y = .ok r) :
    (r = Dec.ZERO ∧ (x.coeff = 0 ∨ y.coeff = 0)) ∨ (r = x ∧ y.coeff = (10 : Int) ^ y.nfrac) ∨
    (r = y ∧ x.coeff = (10 : Int) ^ x.nfrac) ∨
    (r = ⟨x.coeff * y.coeff, x.nfrac + y.nfrac⟩ ∧ fitsI128 (x.coeff * y.coeff) = true) := by
  rw [mul_eq prof tm x y (by omega) (by omega), checkedMulRounded_exact prof tm x y 18 hpq (by omega)] at h
  by_cases h0 : x.coeff = 0 ∨ y.coeff = 0
  · rw [if_pos h0] at h; exact .inl ⟨(Outcome.ok.inj h).symm, h0⟩
  by_cases h1 : y.coeff = (10 : Int) ^ y.nfrac
  · rw [if_neg h0, if_pos h1] at h; exact .inr (.inl ⟨(Outcome.ok.inj h).symm, h1⟩)
  by_cases h2 : x.coeff = (10 : Int) ^ x.nfrac
  · rw [if_neg h0, if_neg h1, if_pos h2] at h; exact .inr (.inr (.inl ⟨(Outcome.ok.inj h).symm, h2⟩))
  rw [if_neg h0, if_neg h1, if_neg h2] at h
  cases hf : fitsI128 (x.coeff * y.coeff)
  · rw [checkedI128_none hf] at h; cases h
  · rw [checkedI128_some hf] at h; exact .inr (.inr (.inr ⟨(Outcome.ok.inj h).symm, rfl⟩))

/-- … so the result has exactly the value of the product: `r.coeff / 10^r.nfrac = (a / 10^p) · (b / 10^q)`, over the integers -/
theorem mul_exact_value (prof : Profile) (tm : Mode) (x y r : Dec) (hpq : x.nfrac + y.nfrac ≤ 18)
    (h : mul prof tm x y = .ok r) :
    r.coeff * (10 : Int) ^ (x.nfrac + y.nfrac) = x.coeff * y.coeff * (10 : Int) ^ r.nfrac := by
  rcases mul_exact_cases prof tm x y r hpq h with ⟨rfl, h0⟩ | ⟨rfl, h1⟩ | ⟨rfl, h1⟩ | ⟨rfl, -⟩
  · rcases h0 with h0 | h0 <;> simp [Dec.ZERO, h0]
  · rw [h1, Int.pow_add, Int.mul_assoc, Int.mul_comm ((10 : Int) ^ y.nfrac)]
  · rw [h1, Int.pow_add, Int.mul_comm, Int.mul_assoc, Int.mul_comm ((10 : Int) ^ r.nfrac) r.coeff]
    exact (Int.mul_assoc _ _ _).symm
  · rfl

example : mul Profile.dev .heven ⟨-15, 1⟩ ⟨25, 2⟩ = .ok ⟨-375, 3⟩ ∧ (-375 : Int) * 10 ^ (1 + 2) = -15 * 25 * 10 ^ 3 ∧
    mul Profile.dev .heven ⟨-15, 1⟩ ⟨100, 2⟩ = .ok ⟨-15, 1⟩ ∧ (-15 : Int) * 10 ^ (1 + 2) = -15 * 100 * 10 ^ 1 := by decide +kernel

end Fpdec.Props.C02
