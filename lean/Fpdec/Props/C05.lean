import Fpdec.Kernels.Lib
import Fpdec.Kernels.DecRound
import Fpdec.Kernels.Round
import Fpdec.Lemmas.Rounding
import Fpdec.Lemmas.IntTy
import Fpdec.Props.C05_Sites

/-!
# C05 — round / checked_round implement all eight rounding modes exactly

* `kernel_spec`: the integer rounding kernel `i128_div_rounded(n, d, mode)` is `Spec.specRoundQ` for every
  mode, every `n` above `i128::MIN`, every non-zero in-range `d`, every build profile (re-export of
  `i128DivRounded_spec`; the core is `roundQuot_eq`); `kernel_spec_full` adds `n = i128::MIN` except over `d = -1`,
  where Rust's `/` panics (`kernel_min_neg_one`).
* `spec_table`: `Spec.specRound` itself agrees with the documented behaviour of Python's `decimal` module on
  the complete class grid (sign × last digit 0–9 × remainder below/at/above half/zero × 8 modes).
* `round_spec`, `checked_round_spec`: `d.round(n)` / `d.checked_round(n)` for every `d` in the domain and every
  `n : i8` return `d` unchanged for `n ≥ p`, else the multiple of `10^-n` selected by the mode, panic / `None`
  exactly when that value does not fit; `checked_round` never panics.  Both rest on what `roundCore` returns
  (`roundCore_ge`, `roundCore_lt`), and so do the laws at the end.
-/

namespace Fpdec.Props.C05
open Fpdec Fpdec.Model

/-- `i128_div_rounded(n, d, mode)` for a dividend above `i128::MIN` … -/
theorem kernel_spec (prof : Profile) (tm : Mode) (mode : Option Mode) (n d : Int)
    (hn : I128_MIN < n ∧ n ≤ I128_MAX) (hd : I128_MIN ≤ d ∧ d ≤ I128_MAX) (hd0 : d ≠ 0) :
    i128DivRounded prof tm n d mode = .ok (Spec.specRoundQ (mode.getD tm) n d) :=
  i128DivRounded_spec prof tm mode n d hn hd hd0

/-- … for every i128 dividend: all pairs except `(i128::MIN, -1)`, whose exact quotient `2^127` is not an i128 … -/
theorem kernel_spec_full (prof : Profile) (tm : Mode) (mode : Option Mode) (n d : Int)
    (hn : I128_MIN ≤ n ∧ n ≤ I128_MAX) (hd : I128_MIN ≤ d ∧ d ≤ I128_MAX) (hd0 : d ≠ 0) (hc : ¬ (n = I128_MIN ∧ d = -1)) :
    i128DivRounded prof tm n d mode = .ok (Spec.specRoundQ (mode.getD tm) n d) :=
  i128DivRounded_spec_full prof tm mode n d hn hd hd0 hc

/-- … and on that pair the plain `/` of `i128_div_mod_floor` panics, in every profile (Rust's `i128::MIN / -1`) -/
theorem kernel_min_neg_one (prof : Profile) (tm : Mode) (mode : Option Mode) :
    i128DivRounded prof tm I128_MIN (-1) mode = .panic .arith :=
  i128DivRounded_min_neg_one prof tm mode

/-- Python `decimal` reference outcomes for `(30+digit)·d + rem` over `d`, per mode: the increment (0/1)
    applied to the floor quotient; classes: rem = 0, below half, half, above half -/
def pyIncrement (m : Mode) (neg : Bool) (q : Int) (cls : Nat) : Int :=
  -- q is the floor quotient; for negative values "towards zero" is q+1
  if cls = 0 then 0 else
  match m with
  | .ceil => 1
  | .floor => 0
  | .down => if neg then 1 else 0
  | .up => if neg then 0 else 1
  | .r05up => let tz := if neg then q + 1 else q
              if tz % 5 = 0 then (if neg then 0 else 1) else (if neg then 1 else 0)
  | .hup => if cls = 3 then 1 else if cls = 1 then 0 else (if neg then 0 else 1)
  | .hdown => if cls = 3 then 1 else if cls = 1 then 0 else (if neg then 1 else 0)
  | .heven => if cls = 3 then 1 else if cls = 1 then 0 else (if q % 2 = 0 then 0 else 1)

/-- the class grid: divisor 10, remainders 0 / 3 / 5 / 7, every last digit, both signs, all modes -/
theorem spec_table :
    (Mode.all.all fun m => (List.range 20).all fun dg => [0, 3, 5, 7].all fun (r : Nat) =>
      let q : Int := (dg : Int) - 10          -- floor quotients -10 … 9: every last digit, both signs
      let n : Int := q * 10 + r
      let cls := if r = 0 then 0 else if r = 3 then 1 else if r = 5 then 2 else 3
      Spec.specRound m n 10 == q + pyIncrement m (decide (n < 0)) q cls) = true := by
  decide

private theorem ediv_emod_small {n d : Int} (h : n.natAbs < d) :
    (0 ≤ n → n / d = 0 ∧ n % d = n) ∧ (n < 0 → n / d = -1 ∧ n % d = n + d) :=
  ⟨fun h0 => ⟨Int.ediv_eq_zero_of_lt h0 (by omega), Int.emod_eq_of_lt h0 (by omega)⟩,
   fun h0 => (Int.ediv_emod_unique (by omega)).mpr ⟨by omega, by omega, by omega⟩⟩

/-- a value of magnitude below one half rounds to -1, 0 or 1 depending on sign and mode only (`round` far below the last digit
    calls `i128_div_rounded(coeff.signum(), 3)`) -/
theorem specRound_small (m : Mode) (n d : Int) (h : 2 * n.natAbs < d) :
    Spec.specRound m n d = Spec.specRound m (Int.sign n) 3 := by
  obtain ⟨p, q⟩ := ediv_emod_small (n := n) (d := d) (by omega)
  rcases Int.lt_trichotomy n 0 with hn | hn | hn
  · obtain ⟨e1, e2⟩ := q hn
    rw [Int.sign_eq_neg_one_of_neg hn]
    exact specRound_congr m _ _ _ _ (e1.trans (by decide)) (by omega) (by omega) (by omega) (by omega)
  · subst hn
    exact specRound_congr m _ _ _ _ (by simp) (by simp) (by simp) (by simp; omega) (by simp; omega)
  · obtain ⟨e1, e2⟩ := p (by omega)
    rw [Int.sign_eq_one_of_pos hn]
    exact specRound_congr m _ _ _ _ (e1.trans (by decide)) (by omega) (by omega) (by omega) (by omega)

theorem round_shift_const : Gen.ROUND_MAX_SHIFT = 38 ∧ Gen.ROUND_SIGNUM_DIVISOR = 3 := by decide

theorem roundCore_ge (prof : Profile) (tm : Mode) (d : Dec) (n : Int) (hp : d.nfrac ≤ 127) (h : n ≥ (d.nfrac : Int)) :
    roundCore prof tm d n = .ok (some d) := by
  unfold roundCore
  simp only []
  rw [i8_cast_id (x := (d.nfrac : Int)) (by omega) (by omega), if_pos h]
  rfl

/-- otherwise `roundCore` rounds the coefficient to `k = round(a / 10^(p-n))` and returns `k` with `n` fractional digits (`n ≥ 0`), or
    (`n < 0`) `k·10^(-n)` with none, if that fits.  Far below the last digit (`p - n > 38`: no such power in the table) the code
    rounds the sign over 3 instead, which gives the same `k` (`specRound_small`), and scales back with `checked_mul_pow_ten`. -/
theorem roundCore_lt (prof : Profile) (tm : Mode) (d : Dec) (n : Int) (hd : Dom d) (h1 : n < (d.nfrac : Int)) :
    roundCore prof tm d n = .ok (
      if n ≥ 0 then some ⟨Spec.specRound tm d.coeff ((10 : Int) ^ ((d.nfrac : Int) - n).toNat), n.toNat⟩
      else (checkedI128 (Spec.specRound tm d.coeff ((10 : Int) ^ ((d.nfrac : Int) - n).toNat) * (10 : Int) ^ (-n).toNat)).map
        fun c => ⟨c, 0⟩) := by
  obtain ⟨a, p⟩ := d
  obtain ⟨ha0, ha1, hp⟩ := hd
  simp only at ha0 ha1 hp h1 ⊢
  obtain ⟨c38, c3⟩ := round_shift_const
  have hpw := pow10_pos ((p : Int) - n).toNat
  unfold roundCore
  simp only [c38, c3]
  rw [i8_cast_id (x := (p : Int)) (by omega) (by omega), if_neg (Int.not_le.mpr h1),
    i8_plain_ok prof (x := (p : Int) - (38 : Nat)) (by omega) (by omega)]
  simp only [Outcome.bind_ok]
  by_cases h2 : n < (p : Int) - (38 : Nat)
  · -- far shift (`n < 0`): the value is below one half in magnitude and rounds like its sign over 3, to `k ∈ {-1, 0, 1}`
    have hbig : 2 * a.natAbs < (10 : Int) ^ ((p : Int) - n).toNat := by
      have := pow10_gt_max (k := ((p : Int) - n).toNat) (by omega)
      unfold I128_MIN I128_MAX at *
      omega
    have hk := specRound_between tm a.sign 3 (by omega)
    have hsg : a.sign.natAbs ≤ 1 := by rw [Int.natAbs_sign]; split <;> omega
    rw [if_pos h2, if_neg (show ¬ n ≥ 0 by omega),
      i128DivRounded_pos prof tm none a.sign ((3 : Nat) : Int) (sign_fits a) (by omega)
        (by unfold I128_MAX; omega), specRound_small tm a _ hbig]
    simp only [Outcome.bind_ok, Option.getD_none, show ((3 : Nat) : Int) = 3 from rfl, show (-n).toNat = n.natAbs by omega]
    generalize Spec.specRound tm a.sign 3 = k at hk
    by_cases hk0 : k = 0
    · rw [if_pos hk0, hk0, Int.zero_mul]
      rfl
    · rw [if_neg hk0]
      by_cases hm : n.natAbs ≤ 38
      · rw [checkedMulPowTen_eq k n.natAbs hm]
        cases checkedI128 (k * (10 : Int) ^ n.natAbs) <;> rfl
      · -- `10^m` is not in the table, and `±10^m` is not an i128
        have hgt := pow10_gt_max (k := n.natAbs) (by omega)
        have hnf : fitsI128 (k * (10 : Int) ^ n.natAbs) = false := Bool.eq_false_iff.mpr fun hh => by
          rw [fitsI128_iff] at hh
          unfold I128_MIN I128_MAX at *
          rcases (show k = -1 ∨ k = 1 by omega) with h | h <;> subst h <;> omega
        unfold checkedMulPowTen
        rw [checkedTenPow_none n.natAbs (by omega), checkedI128_none hnf]
        rfl
  · -- regular shift 1 ..= 38
    have hf : fitsI128 a = true := by rw [fitsI128_iff]; omega
    rw [if_neg h2, i8_plain_ok prof (x := (p : Int) - n) (by omega) (by omega)]
    simp only [Outcome.bind_ok]
    rw [u8_cast_id (x := (p : Int) - n) (by omega) (by omega), tenPow_ok _ (by omega)]
    simp only [Outcome.bind_ok]
    rw [i128DivRounded_pos prof tm none a _ hf hpw (pow10_le_max (by omega))]
    simp only [Outcome.bind_ok, Option.getD_none]
    by_cases hn0 : n ≥ 0
    · rw [if_pos hn0, if_pos hn0, u8_cast_id (x := n) (by omega) (by omega)]
      rfl
    · rw [if_neg hn0, if_neg hn0, i8_plain_ok prof (x := -n) (by omega) (by omega)]
      simp only [Outcome.bind_ok]
      rw [u8_cast_id (x := -n) (by omega) (by omega), tenPow_ok _ (by omega)]
      simp only [Outcome.bind_ok]
      cases checkedI128 (Spec.specRound tm a ((10 : Int) ^ ((p : Int) - n).toNat) * (10 : Int) ^ (-n).toNat) <;> rfl

/-- `d.checked_round(n)` never panics and returns the spec's value or `None` -/
theorem checked_round_spec (prof : Profile) (tm : Mode) (d : Dec) (n : Int) (hd : Dom d) (hn : -128 ≤ n ∧ n ≤ 127) :
    Spec.allowedChecked (Spec.round tm d.coeff d.nfrac n) (outOptPair (checkedRound prof tm d n)) = true := by
  unfold Spec.round checkedRound
  by_cases h1 : n ≥ (d.nfrac : Int)
  · rw [if_pos h1, roundCore_ge prof tm d n (by have := hd.2.2; omega) h1]
    exact allowedChecked_val_self d
  rw [if_neg h1, roundCore_lt prof tm d n hd (by omega)]
  simp only []
  by_cases h2 : n ≥ 0
  · rw [if_pos h2, if_pos h2]
    exact valFit_some _ _ (specRound_fits tm _ _ hd.fits (pow10_pos _))
  rw [if_neg h2, if_neg h2]
  split
  · next hk0 =>
    rw [hk0, Int.zero_mul]
    rfl
  · exact valFit_checked _ _

theorem round_valOvf (tm : Mode) (a : Int) (p : Nat) (n : Int) : (Spec.round tm a p n).ValOvf :=
  .ite trivial (.ite (valFit_valOvf _ _) (.ite trivial (valFit_valOvf _ _)))

theorem round_eq_checked (prof : Profile) (tm : Mode) (d : Dec) (n : Int) :
    round prof tm d n = panicOnNone (checkedRound prof tm d n) := by
  unfold round checkedRound
  rw [← bind_panicOnNone]
  rfl

/-- `d.round(n)`: the same value, a panic with the overflow message instead of `None` -/
theorem round_spec (prof : Profile) (tm : Mode) (d : Dec) (n : Int) (hd : Dom d) (hn : -128 ≤ n ∧ n ≤ 127) :
    Spec.allowedOp (Spec.round tm d.coeff d.nfrac n) (outPair (round prof tm d n)) = true :=
  round_eq_checked prof tm d n ▸ allowedOp_panicOnNone (round_valOvf tm d.coeff d.nfrac n) (checked_round_spec prof tm d n hd hn)

/-! ### non-vacuity -/
example : round Profile.dev .heven ⟨25, 1⟩ 0 = .ok ⟨2, 0⟩ ∧ round Profile.dev .hup ⟨25, 1⟩ 0 = .ok ⟨3, 0⟩ := by decide +kernel
example : round Profile.release .up ⟨1, 0⟩ (-39) = .panic .overflow ∧ checkedRound Profile.dev .up ⟨1, 0⟩ (-39) = .ok none := by
  decide
example : round Profile.dev .floor ⟨-29999, 3⟩ (-37) = .ok ⟨-(10 : Int) ^ 37, 0⟩ := by decide +kernel

/-! ### translated kernels
The Lean definitions `Gen.K.*` are regenerated from the Rust source on every run by `tools/fpkernels.py` (expression-level
translation).  These theorems tie them to the hand-written model the property theorems above are about: a change of the Rust
kernel that changes its translation breaks them. -/
theorem kernel_i128_div_mod_floor (prof : Profile) (x y : Int) :
    Gen.K.i128_div_mod_floor prof x y = i128DivModFloor prof x y := Kernels.i128_div_mod_floor_eq prof x y
theorem kernel_round_quot (prof : Profile) (tm : Mode) (quot : Int) (rem divisor : Nat) (mode : Option Mode)
    (hq : fitsI128 quot = true) :
    Gen.K.round_quot prof tm quot rem divisor mode = .ok (roundQuot tm quot rem divisor mode) :=
  Kernels.round_quot_eq prof tm quot rem divisor mode hq

theorem kernel_ten_pow (prof : Profile) (n : Nat) : Gen.K.ten_pow prof n = tenPow n := Kernels.ten_pow_eq prof n
theorem kernel_mul_pow_ten (prof : Profile) (val : Int) (n : Nat) : Gen.K.mul_pow_ten prof val n = mulPowTen val n :=
  Kernels.mul_pow_ten_eq prof val n
theorem kernel_checked_mul_pow_ten (prof : Profile) (val : Int) (n : Nat) :
    Gen.K.checked_mul_pow_ten prof val n = .ok (checkedMulPowTen val n) := Kernels.checked_mul_pow_ten_eq prof val n
theorem kernel_i128_div_rounded (prof : Profile) (tm : Mode) (a b : Int) (mode : Option Mode) (ha : fitsI128 a = true) :
    Gen.K.i128_div_rounded prof tm a b mode = i128DivRounded prof tm a b mode :=
  Kernels.i128_div_rounded_eq prof tm a b mode ha

/-- `impl Round for Decimal` (src/round.rs), both methods, as translated from the source on this run -/
theorem kernel_decimal_round (prof : Profile) (tm : Mode) (d : Dec) (n : Int) (hd : fitsI128 d.coeff = true) :
    Gen.K.decimal_round prof tm d n = round prof tm d n := Kernels.decimal_round_eq prof tm d n hd
theorem kernel_decimal_checked_round (prof : Profile) (tm : Mode) (d : Dec) (n : Int) (hd : fitsI128 d.coeff = true) :
    Gen.K.decimal_checked_round prof tm d n = checkedRound prof tm d n := Kernels.decimal_checked_round_eq prof tm d n hd

/-- the associated constants of `Decimal` as extracted from src/lib.rs on this run are the model's (`ZERO`/`ONE` are what the
    translated kernels return for `Self::ZERO` / `Self::ONE`; `MIN ..= MAX` with at most `DELTA`'s digits is the domain `Dom`) -/
theorem decimal_consts :
    Gen.DECIMAL_CONSTS =
      [("ZERO", Dec.ZERO.coeff, Dec.ZERO.nfrac), ("ONE", Dec.ONE.coeff, Dec.ONE.nfrac),
       ("NEG_ONE", Dec.NEG_ONE.coeff, Dec.NEG_ONE.nfrac), ("TWO", Dec.TWO.coeff, Dec.TWO.nfrac),
       ("TEN", Dec.TEN.coeff, Dec.TEN.nfrac), ("MAX", Dec.MAX.coeff, Dec.MAX.nfrac), ("MIN", Dec.MIN.coeff, Dec.MIN.nfrac),
       ("DELTA", Dec.DELTA.coeff, Dec.DELTA.nfrac)] := Kernels.decimal_consts_tie
theorem dom_is_min_max (d : Dec) :
    (Dec.MIN.coeff ≤ d.coeff ∧ d.coeff ≤ Dec.MAX.coeff ∧ d.nfrac ≤ Dec.DELTA.nfrac) ↔ Dom d := Kernels.dom_is_min_max d

/-! ### algebraic laws -/

theorem round_idempotent (prof : Profile) (tm : Mode) (x r : Dec) (n : Int) (hx : Dom x) (hn : -128 ≤ n ∧ n ≤ 127)
    (h : round prof tm x n = .ok r) : round prof tm r n = .ok r := by
  rw [round_eq_checked, panicOnNone_eq_ok_iff] at h ⊢
  unfold checkedRound at h ⊢
  by_cases h1 : n ≥ (x.nfrac : Int)
  · -- nothing to round: `r = x`
    rw [roundCore_ge prof tm x n (by have := hx.2.2; omega) h1] at h
    cases h
    exact roundCore_ge prof tm x n (by have := hx.2.2; omega) h1
  rw [roundCore_lt prof tm x n hx (by omega)] at h
  generalize Spec.specRound tm x.coeff ((10 : Int) ^ ((x.nfrac : Int) - n).toNat) = k at h
  by_cases h2 : n ≥ 0
  · -- `r` has `n` fractional digits: nothing to round
    rw [if_pos h2] at h
    cases h
    exact roundCore_ge prof tm _ n (by simp only; omega) (by simp only; omega)
  · -- `r = k·10^(-n)` with no fractional digits, a coefficient of the domain: it is rounded to itself and scaled back
    rw [if_neg h2] at h
    cases hf : fitsI128 (k * (10 : Int) ^ (-n).toNat)
    · rw [checkedI128_none hf] at h; cases h
    · rw [checkedI128_some hf] at h
      cases h
      have hd : Dom ⟨k * (10 : Int) ^ (-n).toNat, 0⟩ :=
        dom_of_fits hf (mul_pow10_ne_min k _ (by omega)) (Nat.zero_le _)
      rw [roundCore_lt prof tm _ n hd (by simp only; omega), if_neg h2]
      simp only [show (((0 : Nat) : Int) - n).toNat = (-n).toNat by omega]
      rw [specRound_exact_mul tm k _ (pow10_pos _), checkedI128_some hf]
      rfl

/-- the same as an equality of outcomes: rounding twice is rounding once (both sides panic together) -/
theorem round_round (prof : Profile) (tm : Mode) (x : Dec) (n : Int) (hx : Dom x) (hn : -128 ≤ n ∧ n ≤ 127) :
    (round prof tm x n >>= fun r => round prof tm r n) = round prof tm x n := by
  cases h : round prof tm x n with
  | panic k => rfl
  | ok r => exact round_idempotent prof tm x r n hx hn h

example : round Profile.dev .heven ⟨-12345, 3⟩ 1 = .ok ⟨-123, 1⟩ ∧ round Profile.dev .heven ⟨-123, 1⟩ 1 = .ok ⟨-123, 1⟩ ∧
    round Profile.release .up ⟨12345, 1⟩ (-2) = .ok ⟨1300, 0⟩ ∧ round Profile.release .up ⟨1300, 0⟩ (-2) = .ok ⟨1300, 0⟩ ∧
    round Profile.dev .ceil ⟨1, 5⟩ (-36) = .ok ⟨(10 : Int) ^ 36, 0⟩ ∧
    round Profile.dev .ceil ⟨(10 : Int) ^ 36, 0⟩ (-36) = .ok ⟨(10 : Int) ^ 36, 0⟩ ∧
    round Profile.dev .floor ⟨1, 5⟩ (-50) = .ok ⟨0, 0⟩ ∧ round Profile.dev .floor ⟨0, 0⟩ (-50) = .ok ⟨0, 0⟩ := by decide +kernel

/-! ### algebraic laws: `checked_round` against `round` -/

theorem checked_round_no_panic (prof : Profile) (tm : Mode) (d : Dec) (n : Int) (hd : Dom d) (hn : -128 ≤ n ∧ n ≤ 127) :
    ∃ o, checkedRound prof tm d n = .ok o :=
  ok_of_allowedChecked (round_valOvf tm d.coeff d.nfrac n) (checked_round_spec prof tm d n hd hn)

/-- `Some(r)` exactly when `round` returns `r` (no hypothesis) -/
theorem checked_round_some_iff (prof : Profile) (tm : Mode) (d r : Dec) (n : Int) :
    checkedRound prof tm d n = .ok (some r) ↔ round prof tm d n = .ok r := by
  rw [round_eq_checked, panicOnNone_eq_ok_iff]

/-- `None` exactly when `round` panics, the panic being the overflow panic -/
theorem checked_round_none_iff (prof : Profile) (tm : Mode) (d : Dec) (n : Int) (hd : Dom d) (hn : -128 ≤ n ∧ n ≤ 127) :
    checkedRound prof tm d n = .ok none ↔ round prof tm d n = .panic .overflow := by
  rw [round_eq_checked, panicOnNone_eq_panic_iff (checked_round_no_panic prof tm d n hd hn)]
  exact (and_iff_left rfl).symm

theorem round_panic_kind (prof : Profile) (tm : Mode) (d : Dec) (n : Int) (k : PanicKind) (hd : Dom d) (hn : -128 ≤ n ∧ n ≤ 127)
    (h : round prof tm d n = .panic k) : k = .overflow := by
  rw [round_eq_checked, panicOnNone_eq_panic_iff (checked_round_no_panic prof tm d n hd hn)] at h
  exact h.2

example : checkedRound Profile.dev .heven ⟨-12345, 3⟩ 1 = .ok (some ⟨-123, 1⟩) ∧ round Profile.dev .heven ⟨-12345, 3⟩ 1 = .ok ⟨-123, 1⟩ ∧
    checkedRound Profile.release .up ⟨1, 0⟩ (-39) = .ok none ∧ round Profile.release .up ⟨1, 0⟩ (-39) = .panic .overflow ∧
    checkedRound Profile.dev .ceil ⟨I128_MAX, 0⟩ (-1) = .ok none ∧ round Profile.dev .ceil ⟨I128_MAX, 0⟩ (-1) = .panic .overflow := by
  decide

/-! ### algebraic laws: rounding to fewer fractional digits always succeeds -/

theorem round_fewer_digits (prof : Profile) (tm : Mode) (x : Dec) (P : Nat) (hx : Dom x) (hP : P < x.nfrac) :
    round prof tm x P = .ok ⟨Spec.specRound tm x.coeff ((10 : Int) ^ (x.nfrac - P)), P⟩ := by
  have hp := hx.2.2
  rw [round_eq_checked]
  unfold checkedRound
  rw [roundCore_lt prof tm x P hx (by omega), if_pos (by omega), show ((x.nfrac : Int) - (P : Int)).toNat = x.nfrac - P by omega,
    Int.toNat_natCast]
  rfl

example : round Profile.dev .heven ⟨-12345, 3⟩ 1 = .ok ⟨-123, 1⟩ ∧ Spec.specRound .heven (-12345) (10 ^ (3 - 1)) = -123 ∧
    round Profile.release .up ⟨I128_MAX, 18⟩ 0 = .ok ⟨170141183460469231732, 0⟩ := by decide +kernel

end Fpdec.Props.C05
