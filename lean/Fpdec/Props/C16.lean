import Fpdec.Kernels.WideSpecial
import Fpdec.Kernels.WideDiv
import Fpdec.Kernels.Round
import Fpdec.Lemmas.Wide
import Fpdec.Props.C03
import Fpdec.Props.C16_Sites

/-!
# C16 — Results stay correct when intermediates exceed 128 bits

* The underlying wide operations, for EVERY profile (no plain operation inside overflows, no debug assertion fails):
  `u128_mul_u128_spec` (`hi·2^128 + lo = x·y`), `u256_idiv_u64_spec`, `u256_idiv_u128_special_spec` (Knuth's algorithm D,
  4 digits by 2, base 2^64: normalisation loses no bits, both quotient digits are exact after the correction loop — the add-back
  step is PROVED unnecessary, not assumed —, the wrapping subtractions equal the true partial remainders), `u256_idiv_u128_spec`,
  `i256_div_mod_floor_spec`, `i128_shifted_div_mod_floor_spec`: `a·b = q·m + r` resp. `a·10^k = q·m + r` with `0 ≤ r < m` (floor
  quotient, every sign combination, exact divisions included) for every positive `m`, and `None` exactly when the truncated
  quotient exceeds `i128::MAX`.
* `wide_mul`, `wide_div` discharge the hypotheses `C02.WideMul` / `C04.WideDiv` (the latter also asks for the negative divisors of
  `i128_shifted_div_mod_floor`, reachable since the D13 repair: `i128ShiftedDivModFloor_spec_neg`), which gives the UNCONDITIONAL
  statements about `*`, `/`, `mul_rounded`, `div_rounded`, `quantize` below: whenever a product of coefficients or a scaled dividend
  does not fit 128 bits, the result is still exactly the correctly rounded value if that is representable, and the overflow signal
  otherwise.  For `quantize` (`div_rounded(q, 0) * q`) "representable" refers to the intermediate quotient `k`, not to `k·q`: the
  expectation is the overflow signal as soon as `k` leaves i128, and at `k = -2^127` (`Spec.Exp.any`) the statement says nothing.
-/

namespace Fpdec.Props.C16
open Fpdec Fpdec.Model

theorem u128_mul_u128_spec (prof : Profile) (x y : Nat) (hx : x < U128_MOD) (hy : y < U128_MOD) :
    ∃ rh rl, u128MulU128 prof x y = .ok (rh, rl) ∧ rh * U128_MOD + rl = x * y ∧ rh < U128_MOD ∧ rl < U128_MOD :=
  ⟨_, _, u128MulU128_eq prof x y hx hy, Nat.div_add_mod' _ _, Nat.div_lt_of_lt_mul (Nat.mul_lt_mul'' hx hy),
    Nat.mod_lt _ (by decide)⟩

theorem u256_idiv_u64_spec (prof : Profile) (xh xl y : Nat) (hxh : xh < U128_MOD) (hxl : xl < U128_MOD)
    (hy0 : 0 < y) (hy : y < U64_MOD) :
    ∃ qh ql r, u256IdivU64 prof xh xl y = .ok (qh, ql, r) ∧
      qh * U128_MOD + ql = (xh * U128_MOD + xl) / y ∧ r = (xh * U128_MOD + xl) % y ∧ qh < U128_MOD ∧ ql < U128_MOD :=
  ⟨_, _, _, u256IdivU64_eq prof xh xl y hxh hxl hy0 hy, Nat.div_add_mod' _ _, rfl,
    Nat.lt_of_le_of_lt (Nat.div_le_div_right (Nat.div_le_self _ _)) (Wide.digit_lt_base hxh hxl), Nat.mod_lt _ (by decide)⟩

theorem u256_idiv_u128_special_spec (prof : Profile) (xh xl y : Nat) (hy : U64_MOD ≤ y) (hy2 : y < U128_MOD)
    (hxh : xh < y) (hxl : xl < U128_MOD) :
    ∃ ql r, u256IdivU128Special prof xh xl y = .ok (0, ql, r) ∧
      ql = (xh * U128_MOD + xl) / y ∧ r = (xh * U128_MOD + xl) % y ∧ ql < U128_MOD :=
  ⟨_, _, u256IdivU128Special_eq prof xh xl y hy2 hxh hxl, rfl, rfl, Wide.digit_lt_base hxh hxl⟩

theorem u256_idiv_u128_spec (prof : Profile) (xh xl y : Nat) (hxh : xh < U128_MOD) (hxl : xl < U128_MOD)
    (hy0 : 0 < y) (hy : y < U128_MOD) :
    ∃ qh ql r, u256IdivU128 prof xh xl y = .ok (qh, ql, r) ∧
      qh * U128_MOD + ql = (xh * U128_MOD + xl) / y ∧ r = (xh * U128_MOD + xl) % y ∧ qh < U128_MOD ∧ ql < U128_MOD :=
  ⟨_, _, _, u256IdivU128_eq prof xh xl y hxh hxl hy0 hy, Nat.div_add_mod' _ _, rfl,
    Nat.lt_of_le_of_lt (Nat.div_le_div_right (Nat.div_le_self _ _)) (Wide.digit_lt_base hxh hxl), Nat.mod_lt _ (by decide)⟩

theorem i256_div_mod_floor_spec (prof : Profile) (x1 x2 y : Int)
    (h1 : I128_MIN < x1 ∧ x1 ≤ I128_MAX) (h2 : I128_MIN < x2 ∧ x2 ≤ I128_MAX) (hy : 0 < y ∧ y ≤ I128_MAX) :
    i256DivModFloor prof x1 x2 y =
      .ok (if ((x1 * x2).natAbs / y.natAbs : Nat) ≤ I128_MAX.toNat then some ((x1 * x2) / y, (x1 * x2) % y) else none) :=
  i256DivModFloor_spec prof x1 x2 y ⟨Int.le_of_lt h1.1, h1.2⟩ ⟨Int.le_of_lt h2.1, h2.2⟩ hy

theorem i128_shifted_div_mod_floor_spec (prof : Profile) (x : Int) (p : Nat) (y : Int)
    (h1 : I128_MIN ≤ x ∧ x ≤ I128_MAX) (hp : p ≤ 38) (hy : 0 < y ∧ y ≤ I128_MAX) :
    i128ShiftedDivModFloor prof x p y =
      .ok (if ((x * 10 ^ p).natAbs / y.natAbs : Nat) ≤ I128_MAX.toNat then some ((x * 10 ^ p) / y, (x * 10 ^ p) % y) else none) :=
  by rw [i128ShiftedDivModFloor_fdiv prof x p y h1 hp ⟨by unfold I128_MIN; omega, hy.2⟩ (by omega),
    Int.fdiv_eq_ediv_of_nonneg _ (by omega), Int.fmod_eq_emod_of_nonneg _ (by omega)]

/-- the floor quotient/remainder pair returned satisfies the statement's identity -/
theorem floor_identity (N m : Int) (hm : 0 < m) : N = (N / m) * m + N % m ∧ 0 ≤ N % m ∧ N % m < m :=
  ⟨(Int.ediv_mul_add_emod N m).symm, Int.emod_nonneg N (Int.ne_of_gt hm), Int.emod_lt_of_pos N hm⟩

theorem wide_mul : C02.WideMul := i256_div_mod_floor_spec
theorem wide_div : C04.WideDiv := ⟨i128_shifted_div_mod_floor_spec, i128ShiftedDivModFloor_spec_neg⟩

/-! ### unconditional statements for the operations that use the wide paths -/

theorem mul_correct (prof : Profile) (tm : Mode) (x y : Dec) (hx : Dom x) (hy : Dom y) :
    Spec.allowedOp (Spec.mul tm x.coeff x.nfrac y.coeff y.nfrac) (outPair (mul prof tm x y)) = true :=
  C02.mul_spec wide_mul prof tm x y hx hy

theorem mul_rounded_correct (prof : Profile) (tm : Mode) (x y : Dec) (n : Nat) (hx : Dom x) (hy : Dom y) :
    Spec.allowedOp (Spec.mulRounded tm x.coeff x.nfrac y.coeff y.nfrac n) (outPair (mulRounded prof tm x y n)) = true :=
  C04.mul_rounded_spec wide_mul prof tm x y n hx hy

theorem div_correct (prof : Profile) (tm : Mode) (x y : Dec) (hx : Dom x) (hy : Dom y) :
    Spec.allowedOp (Spec.div tm x.coeff x.nfrac y.coeff y.nfrac) (outPair (div prof tm x y)) = true :=
  C03.div_spec wide_div prof tm x y hx hy

theorem checked_div_correct (prof : Profile) (tm : Mode) (x y : Dec) (hx : Dom x) (hy : Dom y) :
    Spec.allowedChecked (Spec.div tm x.coeff x.nfrac y.coeff y.nfrac) (outOptPair (checkedDiv prof tm x y)) = true :=
  C03.checked_div_spec wide_div prof tm x y hx hy

theorem div_rounded_correct (prof : Profile) (tm : Mode) (x y : Dec) (n : Nat) (hx : Dom x) (hy : Dom y) :
    Spec.allowedOp (Spec.divRounded tm x.coeff x.nfrac y.coeff y.nfrac n) (outPair (divRounded prof tm x y n)) = true :=
  C04.div_rounded_spec wide_div prof tm x y n hx hy

theorem quantize_correct (prof : Profile) (tm : Mode) (x q : Dec) (hx : Dom x) (hq : Dom q) :
    Spec.allowedOp (Spec.quantize tm false x.coeff x.nfrac q.coeff q.nfrac) (outPair (quantize prof tm x q)) = true :=
  C04.quantize_spec wide_mul wide_div prof tm x q hx hq

/-! ### non-vacuity: the hypotheses are satisfiable; exact negative quotient on the wide path (former defect D10) -/
example : i256DivModFloor Profile.dev (-6) 0 7 = .ok (some (0, 0)) := by
  rw [i256DivModFloor_spec Profile.dev (-6) 0 7 (by decide) (by decide) (by decide)]; decide
example : i128ShiftedDivModFloor Profile.release (-1000000000000000000000000000000) 18 100000000000000000000 =
    .ok (some (-10000000000000000000000000000, 0)) := by
  rw [i128_shifted_div_mod_floor_spec Profile.release _ 18 _ (by decide) (by decide) (by decide)]; decide
-- the dividend `i128::MIN` (an integer operand) on the wide path, both divisor signs
example : i128ShiftedDivModFloor Profile.dev I128_MIN 2 7000 = .ok (some (-2430588335149560453309818624512630082, 1200)) := by
  rw [i128_shifted_div_mod_floor_spec Profile.dev _ 2 _ (by decide) (by decide) (by decide)]; decide
example : i128ShiftedDivModFloor Profile.release I128_MIN 1 (-30) = .ok (some (56713727820156410577229101238628035242, -20)) := by
  rw [i128ShiftedDivModFloor_spec_neg Profile.release _ 1 _ (by decide) (by decide) (by decide)]; decide
example : Dom ⟨-1000000000000000000000000000000, 0⟩ ∧ Dom ⟨100000000000000000000, 0⟩ ∧
    Spec.div .floor (-1000000000000000000000000000000) 0 100000000000000000000 0 = .val (-10000000000) 0 := by decide +kernel

/-! ### translated kernels
The Lean definitions `Gen.K.*` are regenerated from the Rust source on every run by `tools/fpkernels.py` (expression-level
translation).  These theorems tie them to the hand-written model the property theorems above are about: a change of the Rust
kernel that changes its translation breaks them. -/
theorem kernel_i128_div_mod_floor (prof : Profile) (x y : Int) :
    Gen.K.i128_div_mod_floor prof x y = i128DivModFloor prof x y := Kernels.i128_div_mod_floor_eq prof x y
theorem kernel_round_quot (prof : Profile) (tm : Mode) (quot : Int) (rem divisor : Nat) (mode : Option Mode)
    (hq : fitsI128 quot = true) :
    Gen.K.round_quot prof tm quot rem divisor mode = .ok (roundQuot tm quot rem divisor mode) :=
  Kernels.round_quot_eq prof tm quot rem divisor mode hq
theorem kernel_u128_mul_u128 (prof : Profile) (x y : Nat) :
    Gen.K.u128_mul_u128 prof x y = u128MulU128 prof x y := Kernels.u128_mul_u128_eq prof x y

theorem kernel_i128_shifted_div_rounded (prof : Profile) (tm : Mode) (a : Int) (p : Nat) (b : Int) (mode : Option Mode) :
    Gen.K.i128_shifted_div_rounded prof tm a p b mode = i128ShiftedDivRounded prof tm a p b mode :=
  Kernels.i128_shifted_div_rounded_eq prof tm a p b mode
theorem kernel_i128_mul_div_ten_pow_rounded (prof : Profile) (tm : Mode) (x y : Int) (p : Nat) (mode : Option Mode) :
    Gen.K.i128_mul_div_ten_pow_rounded prof tm x y p mode = i128MulDivTenPowRounded prof tm x y p mode :=
  Kernels.i128_mul_div_ten_pow_rounded_eq prof tm x y p mode

theorem kernel_u128_msb (prof : Profile) (i : Nat) (hi : i < 340282366920938463463374607431768211456) :
    Gen.K.u128_msb prof i = u128Msb prof i := Kernels.u128_msb_eq prof i hi
theorem kernel_u256_idiv_u64 (prof : Profile) (xh xl y : Nat) :
    Gen.K.u256_idiv_u64 prof xh xl y = u256IdivU64 prof xh xl y := Kernels.u256_idiv_u64_eq prof xh xl y
theorem kernel_u256_idiv_u128 (prof : Profile) (xh xl y : Nat) :
    Gen.K.u256_idiv_u128 prof xh xl y = u256IdivU128 prof xh xl y := Kernels.u256_idiv_u128_eq prof xh xl y
/-- the signed wrappers with their sign fix-up, as translated from the source on this run -/
theorem kernel_i128_shifted_div_mod_floor (prof : Profile) (x : Int) (p : Nat) (y : Int) :
    Gen.K.i128_shifted_div_mod_floor_k prof x p y = i128ShiftedDivModFloor prof x p y :=
  Kernels.i128_shifted_div_mod_floor_eq prof x p y
theorem kernel_i256_div_mod_floor (prof : Profile) (x1 x2 y : Int) :
    Gen.K.i256_div_mod_floor_k prof x1 x2 y = i256DivModFloor prof x1 x2 y := Kernels.i256_div_mod_floor_eq prof x1 x2 y

/-- Knuth's algorithm D (`u256_idiv_u128_special`) with both correction loops, as translated from the source on this run -/
theorem kernel_u256_idiv_u128_special (prof : Profile) (xh xl y : Nat) (hy0 : 0 < y)
    (hy : y < 340282366920938463463374607431768211456) (hxl : xl < 340282366920938463463374607431768211456) :
    Gen.K.u256_idiv_u128_special_k prof xh xl y = u256IdivU128Special prof xh xl y :=
  Kernels.u256_idiv_u128_special_eq prof xh xl y hy0 hy hxl

/-! ### algebraic laws
The unconditional form of `C02.mul_commutes` (the wide path discharged by `wide_mul`). -/

/-- `x * y = y * x`, as outcomes, unless both operands are representations of one with different numbers of fractional digits
    (then each product is its left operand: `C02.mul_ones`) -/
theorem mul_commutes (prof : Profile) (tm : Mode) (x y : Dec) (hx : Dom x) (hy : Dom y)
    (h11 : x.coeff = (10 : Int) ^ x.nfrac → y.coeff = (10 : Int) ^ y.nfrac → x.nfrac = y.nfrac) :
    mul prof tm x y = mul prof tm y x := C02.mul_commutes wide_mul prof tm x y hx hy h11

-- a product that takes the wide path (the exact product does not fit an i128), in both orders
example : mul Profile.dev .heven ⟨I128_MAX, 18⟩ ⟨-5, 1⟩ = .ok ⟨-85070591730234615865843651857942052864, 18⟩ ∧
    mul Profile.dev .heven ⟨-5, 1⟩ ⟨I128_MAX, 18⟩ = .ok ⟨-85070591730234615865843651857942052864, 18⟩ := by decide +kernel

end Fpdec.Props.C16
