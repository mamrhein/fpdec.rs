import Fpdec.Kernels.Misc
import Fpdec.Kernels.IntoFloat
import Fpdec.Lemmas.IntoFloat
import Fpdec.Lemmas.IntoFloatNearest
import Fpdec.Lemmas.Cmp
import Fpdec.Lemmas.Unary
import Fpdec.Props.C12_Sites

/-!
# C12 — Decimal to f64/f32 conversion is correctly rounded

* `into_float_spec`: for every Decimal of the domain, both formats and every profile the model of `f64::from(d)` / `f32::from(d)`
  returns the bit pattern `Spec.intoFloat` = sign bit + `Spec.rneBits |a| 10^p` (exponent from the definition
  `2^e ≤ v < 2^(e+1)`, significand by half-even rounding of the exact quotient, carry into the exponent); zero maps to `+0.0`.
* `rne_is_nearest`: that pattern decodes to a float that is nearest to the exact decimal value among all bit patterns of the
  format, with an even significand on ties — the spec itself is justified, not only matched.
Assumed (Rust reference, exercised by the correspondence run): `i128 as f64` / `as f32` rounds to nearest-even — the integer-valued
branch (`n_frac_digits == 0` or zero coefficient) is modelled by the spec function itself.
-/

namespace Fpdec.Props.C12
open Fpdec Fpdec.Model

theorem from_decimal_spec (prof : Profile) (f : Spec.FloatFmt) (hf : f = Spec.FloatFmt.f64 ∨ f = Spec.FloatFmt.f32)
    (d : Dec) (hd : Dom d) (hp : 0 < d.nfrac) (ha : d.coeff ≠ 0) :
    fromDecimal prof f d = .ok (Spec.intoFloat f d.coeff d.nfrac) :=
  fromDecimal_spec prof f hf d hd.domI ha

theorem into_float_spec (prof : Profile) (f : Spec.FloatFmt) (hf : f = Spec.FloatFmt.f64 ∨ f = Spec.FloatFmt.f32)
    (d : Dec) (hd : Dom d) :
    intoFloat prof f d = .ok (Spec.intoFloat f d.coeff d.nfrac) :=
  intoFloat_spec prof f hf d hd.domI

/-- the spec pattern is a finite normal float, nearest to the decimal value among all bit patterns `b` of the format
    (distances compared by cross-multiplication), and has an even last bit whenever another value is equally near -/
theorem rne_is_nearest (f : Spec.FloatFmt) (hf : f = Spec.FloatFmt.f64 ∨ f = Spec.FloatFmt.f32)
    (a : Int) (p : Nat) (ha : a ≠ 0) (ha0 : I128_MIN < a) (ha1 : a ≤ I128_MAX) (hp : p ≤ 18) :
    2 ^ f.fracBits ≤ Spec.rneBits f a.natAbs (10 ^ p) ∧
    Spec.rneBits f a.natAbs (10 ^ p) < (2 ^ f.expBits - 1) * 2 ^ f.fracBits ∧
    ∀ b : Nat,
      let r := Spec.decodeBits f (Spec.rneBits f a.natAbs (10 ^ p))
      let y := Spec.decodeBits f b
      ((a.natAbs * r.2 : Nat) - (r.1 * 10 ^ p : Nat) : Int).natAbs * y.2
          ≤ ((a.natAbs * y.2 : Nat) - (y.1 * 10 ^ p : Nat) : Int).natAbs * r.2 ∧
      (((a.natAbs * r.2 : Nat) - (r.1 * 10 ^ p : Nat) : Int).natAbs * y.2
          = ((a.natAbs * y.2 : Nat) - (y.1 * 10 ^ p : Nat) : Int).natAbs * r.2 →
        y.1 * r.2 ≠ r.1 * y.2 → Spec.rneBits f a.natAbs (10 ^ p) % 2 = 0) := by
  obtain ⟨hfb, heb, -⟩ := fmt_shape hf
  have hnum0 : 0 < a.natAbs := by omega
  have hden0 : 0 < 10 ^ p := Nat.pow_pos (by decide)
  obtain ⟨h1, h2⟩ := dec_normal_range hf hnum0 (by unfold I128_MIN I128_MAX at *; omega) hden0
    (Nat.pow_le_pow_right (by decide) hp)
  exact rneBits_nearest f hfb heb _ _ hnum0 hden0 h1 h2

/-! ### non-vacuity -/
example : intoFloat Profile.dev .f64 ⟨1, 1⟩ = .ok 4591870180066957722 := by decide +kernel   -- 0.1
example : intoFloat Profile.release .f32 ⟨99999999, 8⟩ = .ok 1065353216 := by decide +kernel   -- 0.99999999 → 1.0f32 (carry)

/-! ### translated kernels
The Lean definitions `Gen.K.*` are regenerated from the Rust source on every run by `tools/fpkernels.py` (expression-level
translation).  These theorems tie them to the hand-written model the property theorems above are about: a change of the Rust
kernel that changes its translation breaks them. -/
/-- `Float::from_decimal` (src/into_float.rs) instantiated for `f64` (`FRACTION_BITS = 52`, `EXP_BIAS = 1023`, `BITS = 64`) and `f32`
    (23, 127, 32, `from_bits(bits as u32)`), as translated on this run -/
theorem kernel_f64_from_decimal (prof : Profile) (d : Dec) :
    Gen.K.f64_from_decimal prof d = fromDecimal prof Spec.FloatFmt.f64 d := Kernels.f64_from_decimal_eq prof d
theorem kernel_f32_from_decimal (prof : Profile) (d : Dec) :
    Gen.K.f32_from_decimal prof d = fromDecimal prof Spec.FloatFmt.f32 d := Kernels.f32_from_decimal_eq prof d
theorem kernel_n_signif_bits (prof : Profile) (v : Nat) : Gen.K.n_signif_bits prof v = .ok (nSignifBits v) :=
  Kernels.n_signif_bits_eq prof v

/-- `impl From<Decimal> for f64 / f32`: the integral shortcut (`i128 as fN`, assumed RNE) or `Float::from_decimal` -/
theorem kernel_f64_from (prof : Profile) (d : Dec) : Gen.K.f64_from prof d = intoFloat prof Spec.FloatFmt.f64 d :=
  Kernels.f64_from_eq prof d
theorem kernel_f32_from (prof : Profile) (d : Dec) : Gen.K.f32_from prof d = intoFloat prof Spec.FloatFmt.f32 d :=
  Kernels.f32_from_eq prof d

/-! ### algebraic laws
Representation independence and sign symmetry of the conversion, as corollaries of `into_float_spec`: the spec pattern depends only
on the quotient `|a| / 10^p` (a common factor cancels in the exponent and in the half-even rounding) and on the sign. -/

/-- representation independence: two Decimals of the domain with the same value convert to the same float, bit for bit -/
theorem into_float_of_equal_values (prof : Profile) (f : Spec.FloatFmt) (hf : f = Spec.FloatFmt.f64 ∨ f = Spec.FloatFmt.f32)
    (x y : Dec) (hx : Dom x) (hy : Dom y) (h : Spec.cmp x.coeff x.nfrac y.coeff y.nfrac = .eq) :
    intoFloat prof f x = intoFloat prof f y := by
  rw [into_float_spec prof f hf x hx, into_float_spec prof f hf y hy, eq_of_spec_cmp_eq (spec_intoFloat_scale f) h]

example : intoFloat Profile.dev .f64 ⟨1, 1⟩ = intoFloat Profile.dev .f64 ⟨1000, 4⟩ ∧
    intoFloat Profile.dev .f32 ⟨-25, 1⟩ = intoFloat Profile.dev .f32 ⟨-2500, 3⟩ ∧
    intoFloat Profile.release .f64 ⟨7, 0⟩ = intoFloat Profile.release .f64 ⟨7000000000000000000, 18⟩ := by decide +kernel

/-- sign symmetry: the bit pattern of `-d` is that of `d` with the sign bit (bit 63 / bit 31) flipped -/
theorem into_float_neg (prof : Profile) (f : Spec.FloatFmt) (hf : f = Spec.FloatFmt.f64 ∨ f = Spec.FloatFmt.f32)
    (d : Dec) (hd : Dom d) (ha : d.coeff ≠ 0) :
    intoFloat prof f ⟨-d.coeff, d.nfrac⟩ = (fun b => b ^^^ 2 ^ (f.bits - 1)) <$> intoFloat prof f d := by
  rw [into_float_spec prof f hf d hd, into_float_spec prof f hf _ hd.neg]
  show Outcome.ok _ = Outcome.ok _
  rw [spec_intoFloat_neg hf d.coeff d.nfrac ha hd.1 hd.2.1 hd.2.2]

/-- zero maps to `+0.0` whatever its representation: there is no negative zero among the results -/
theorem into_float_zero (prof : Profile) (f : Spec.FloatFmt) (p : Nat) : intoFloat prof f ⟨0, p⟩ = .ok 0 := by
  unfold intoFloat i128AsFloat
  simp

example : intoFloat Profile.dev .f64 ⟨-1, 1⟩ = .ok (4591870180066957722 ^^^ 2 ^ 63) ∧
    intoFloat Profile.dev .f64 ⟨1, 1⟩ = .ok 4591870180066957722 ∧
    intoFloat Profile.dev .f32 ⟨-99999999, 8⟩ = .ok (1065353216 + 2 ^ 31) ∧ intoFloat Profile.dev .f32 ⟨-0, 8⟩ = .ok 0 := by decide +kernel

/-- `into_float_neg` with the model's negation: `f64::from(-d)` is `f64::from(d)` with the sign bit flipped -/
theorem into_float_of_neg (prof : Profile) (f : Spec.FloatFmt) (hf : f = Spec.FloatFmt.f64 ∨ f = Spec.FloatFmt.f32)
    (d : Dec) (hd : Dom d) (ha : d.coeff ≠ 0) :
    (neg prof d >>= intoFloat prof f) = (fun b => b ^^^ 2 ^ (f.bits - 1)) <$> intoFloat prof f d := by
  rw [neg_spec prof d hd, Outcome.bind_ok]
  exact into_float_neg prof f hf d hd ha

end Fpdec.Props.C12
