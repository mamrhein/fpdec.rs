import Fpdec.Gen.KMisc
import Fpdec.Model.Float
import Fpdec.Kernels.Cmp
import Fpdec.Kernels.FromStr
import Fpdec.Kernels.IntoFloat

/-! Tie: the thin forwarders — `Ord::cmp`, `Default::default`, `TryFrom<&str>` / `TryFrom<String>`, `From<Decimal> for f64 / f32`. -/

namespace Fpdec.Kernels
open Fpdec Fpdec.Model

theorem decimal_cmp_eq (prof : Profile) (x y : Dec) (hp : x.nfrac < 256) (hq : y.nfrac < 256) :
    Gen.K.decimal_cmp prof x y = Model.cmp x y := by
  unfold Gen.K.decimal_cmp Model.cmp
  rw [decimal_partial_cmp_eq prof x y hp hq]
  cases partialCmp x y <;> rfl

theorem decimal_default_eq (prof : Profile) : Gen.K.decimal_default prof = .ok Dec.ZERO := rfl

theorem decimal_try_from_str_eq (prof : Profile) (lit : List Nat) : Gen.K.decimal_try_from_str prof lit = fromStr prof lit :=
  decimal_from_str_eq prof lit

theorem decimal_try_from_string_eq (prof : Profile) (lit : List Nat) :
    Gen.K.decimal_try_from_string prof lit = fromStr prof lit :=
  decimal_from_str_eq prof lit

theorem f64_from_eq (prof : Profile) (d : Dec) : Gen.K.f64_from prof d = intoFloat prof Spec.FloatFmt.f64 d := by
  unfold Gen.K.f64_from intoFloat
  simp only [f64_from_decimal_eq, tie]

theorem f32_from_eq (prof : Profile) (d : Dec) : Gen.K.f32_from prof d = intoFloat prof Spec.FloatFmt.f32 d := by
  unfold Gen.K.f32_from intoFloat
  simp only [f32_from_decimal_eq, tie]

end Fpdec.Kernels
