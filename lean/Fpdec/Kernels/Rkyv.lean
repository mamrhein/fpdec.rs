import Fpdec.Gen.KRkyv
import Fpdec.Gen.KHash
import Fpdec.Kernels.Cmp
import Fpdec.Kernels.Ratio
import Fpdec.Model.Ratio

/-! Ties for the feature-gated glue: the `rkyv` impls (comparisons of `ArchivedDecimal` with itself and with `Decimal`, the
`impl_basics` predicates, the accessors, `Archive::resolve` / `Serialize` / `Deserialize` of the `packed` layout) and `impl Hash`.
An `ArchivedDecimal` is carried as the pair of its two fields, i.e. as a `Model.Dec` (both layouts — derived and hand-written
`#[repr(C, packed)]` — have exactly the fields `coeff: i128`, `n_frac_digits: u8`). -/

namespace Fpdec.Kernels
open Fpdec Fpdec.Model

/-! The two macros of cmp.rs are instantiated again for the archived types: the same bodies, hence the same ties. -/

theorem archived_eq_archived_eq (prof : Profile) (x y : Dec) (hp : x.nfrac < 256) (hq : y.nfrac < 256) :
    Gen.K.archived_eq_archived prof x y = .ok (decimalEq x y) := decimal_eq_eq prof x y hp hq

theorem archived_eq_decimal_eq (prof : Profile) (x y : Dec) (hp : x.nfrac < 256) (hq : y.nfrac < 256) :
    Gen.K.archived_eq_decimal prof x y = .ok (decimalEq x y) := decimal_eq_eq prof x y hp hq

/-- `Decimal == ArchivedDecimal` forwards with the operands exchanged -/
theorem decimal_eq_archived_eq (prof : Profile) (x y : Dec) (hp : x.nfrac < 256) (hq : y.nfrac < 256) :
    Gen.K.decimal_eq_archived prof x y = .ok (decimalEq y x) := by
  unfold Gen.K.decimal_eq_archived
  rw [archived_eq_decimal_eq prof y x hq hp]

theorem archived_cmp_archived_eq (prof : Profile) (x y : Dec) (hp : x.nfrac < 256) (hq : y.nfrac < 256) :
    Gen.K.archived_cmp_archived prof x y = .ok (partialCmp x y) := decimal_partial_cmp_eq prof x y hp hq

theorem archived_cmp_decimal_eq (prof : Profile) (x y : Dec) (hp : x.nfrac < 256) (hq : y.nfrac < 256) :
    Gen.K.archived_cmp_decimal prof x y = .ok (partialCmp x y) := decimal_partial_cmp_eq prof x y hp hq

/-- `Decimal.partial_cmp(&ArchivedDecimal)` is the reversed result of the exchanged comparison -/
theorem decimal_cmp_archived_eq (prof : Profile) (x y : Dec) (hp : x.nfrac < 256) (hq : y.nfrac < 256) :
    Gen.K.decimal_cmp_archived prof x y = .ok ((partialCmp y x).map Ordering.swap) := by
  unfold Gen.K.decimal_cmp_archived
  rw [archived_cmp_decimal_eq prof y x hq hp]
  rfl

theorem archived_ord_cmp_eq (prof : Profile) (x y : Dec) (hp : x.nfrac < 256) (hq : y.nfrac < 256) :
    Gen.K.archived_ord_cmp prof x y =
      (match partialCmp x y with | some v => .ok v | none => .panic .unwrap) := by
  unfold Gen.K.archived_ord_cmp
  rw [archived_cmp_archived_eq prof x y hp hq]
  cases partialCmp x y <;> rfl

theorem archived_eq_zero_eq (prof : Profile) (d : Dec) : Gen.K.archived_eq_zero prof d = .ok (eqZero d) := rfl
theorem archived_is_negative_eq (prof : Profile) (d : Dec) : Gen.K.archived_is_negative prof d = .ok (isNegative d) := rfl
theorem archived_is_positive_eq (prof : Profile) (d : Dec) : Gen.K.archived_is_positive prof d = .ok (isPositive d) := rfl
theorem archived_eq_one_eq (prof : Profile) (d : Dec) : Gen.K.archived_eq_one prof d = Gen.K.decimal_eq_one prof d := rfl

theorem decimal_coefficient_eq (prof : Profile) (d : Dec) : Gen.K.decimal_coefficient prof d = .ok d.coeff := rfl
theorem decimal_n_frac_digits_eq (prof : Profile) (d : Dec) : Gen.K.decimal_n_frac_digits prof d = .ok d.nfrac := rfl
theorem archived_coefficient_eq (prof : Profile) (d : Dec) : Gen.K.archived_coefficient prof d = .ok d.coeff := rfl
theorem archived_n_frac_digits_eq (prof : Profile) (d : Dec) : Gen.K.archived_n_frac_digits prof d = .ok d.nfrac := rfl

/-- what `resolve` writes is the Decimal itself, field by field -/
theorem decimal_resolve_eq (prof : Profile) (d : Dec) : Gen.K.decimal_resolve prof d = .ok d := rfl
theorem decimal_serialize_eq (prof : Profile) (d : Dec) : Gen.K.decimal_serialize prof d = .ok (.ok ()) := rfl
theorem archived_deserialize_eq (prof : Profile) (d : Dec) : Gen.K.archived_deserialize prof d = .ok (.ok d) := rfl

/-- `impl Hash for Decimal` feeds exactly the pair returned by `as_integer_ratio` -/
theorem decimal_hash_eq (prof : Profile) (d : Dec) (hc : I128_MIN < d.coeff ∧ d.coeff ≤ I128_MAX) :
    Gen.K.decimal_hash prof d = hashFeed prof d := by
  unfold Gen.K.decimal_hash hashFeed
  rw [decimal_as_integer_ratio_eq prof d hc]
  cases asIntegerRatio prof d <;> rfl

end Fpdec.Kernels
