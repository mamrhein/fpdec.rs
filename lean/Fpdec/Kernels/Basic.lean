import Fpdec.Kernels.Attr
import Fpdec.Lemmas.IntTy
import Fpdec.Lemmas.Dom

/-!
Shared by all kernel ties: `Outcome` normal forms (the set `tie`), congruence steps, the operators of the run-time vocabulary on
arguments that cannot overflow.

A tie `Gen.K.f … = Model.f …` is proved by unfolding both sides, rewriting with `simp only [tie]` and descending with the
congruence steps (`bind_congr`, `else_congr`, core's `ite_congr rfl` where both branches differ) to the leaf where the two texts
differ.  Three traps: a `match` with a catch-all in generated code compiles to a matcher of its own that no lemma stated with
`match` unifies with (at such a leaf: `cases o <;> rfl`); `rfl` / `exact` on a whole goal may start unfolding the tables of
constants; `split` as a traversal step costs several times what `else_congr` / `bind_congr` do.  While the program is still large,
single steps by `rw` are cheaper than the set.

`bind_ok'`/`pure_eq'` are the rewriting (non-`rfl`) versions of `Outcome.bind_ok` and `Outcome.pure_eq`: `simp` then builds
explicit congruence proofs instead of leaving a definitional-equality check to the kernel, whose share of a tie doubles otherwise.
-/

namespace Fpdec.Kernels
open Fpdec Fpdec.Model

@[tie] theorem bind_ok' {α β} (a : α) (f : α → Outcome β) : (Outcome.ok a >>= f) = f a := (Outcome.bind_ok a f).trans rfl
@[tie] theorem bind_panic' {α β} (k : PanicKind) (f : α → Outcome β) : (Outcome.panic k >>= f) = Outcome.panic k :=
  (Outcome.bind_panic k f).trans rfl
@[tie] theorem pure_eq' {α} (a : α) : (pure a : Outcome α) = .ok a := (Outcome.pure_eq a).trans rfl
@[tie] theorem map_ok' {α β} (f : α → β) (a : α) : f <$> (Outcome.ok a) = Outcome.ok (f a) := (Outcome.map_ok f a).trans rfl
@[tie] theorem map_panic' {α β} (f : α → β) (k : PanicKind) : f <$> (Outcome.panic k : Outcome α) = Outcome.panic k :=
  (Outcome.map_panic f k).trans rfl
@[tie] theorem bind_pure {α} (o : Outcome α) : (o >>= Outcome.ok) = o := by cases o <;> rfl
theorem ite_ok {α} (c : Prop) [Decidable c] (a b : α) :
    (if c then Outcome.ok a else Outcome.ok b) = Outcome.ok (if c then a else b) := by
  split <;> rfl

/- the translator's conditions, brought to the `Prop` the model tests -/
attribute [tie] decide_eq_true_eq Bool.and_eq_true Bool.or_eq_true Bool.false_eq_true if_true
  if_false

/- the `Option` monad of the checked forms of the model (`Option.bind_eq_bind` would be tried at every `>>=` of `Outcome` too) -/
@[tie] theorem some_bind' {α β} (a : α) (f : α → Option β) : (some a >>= f) = f a := rfl

theorem ite_bind' {α β} (c : Prop) [Decidable c] (a b : Outcome α) (k : α → Outcome β) :
    ((if c then a else b) >>= k) = if c then a >>= k else b >>= k := by
  split <;> rfl

theorem bind_assoc' {α β γ} (x : Outcome α) (f : α → Outcome β) (g : β → Outcome γ) :
    (x >>= f) >>= g = x >>= fun a => f a >>= g := by
  cases x <;> rfl

theorem map_bind {α β γ} (f : β → γ) (x : Outcome α) (g : α → Outcome β) :
    f <$> (x >>= g) = x >>= fun a => f <$> g a := by
  cases x <;> rfl

theorem bind_map {α β γ} (f : α → β) (x : Outcome α) (g : β → Outcome γ) :
    (f <$> x) >>= g = x >>= fun a => g (f a) := by
  cases x <;> rfl

theorem bind_congr {α β} (o : Outcome α) {f g : α → Outcome β} (h : ∀ a, f a = g a) : (o >>= f) = (o >>= g) :=
  congrArg _ (funext h)

theorem else_congr {α} {c : Prop} [Decidable c] {a b b' : α} (h : b = b') : (if c then a else b) = (if c then a else b') :=
  congrArg _ h

/-! Steps at the head of a program.  `refine bind_step h ?_` and `refine ite_congr_iff id h ?_ ?_` look at the head of the goal
only; `rw` and `simp` traverse all of it, which on a program of a hundred lines costs ten times as much per step. -/

theorem bind_step {α β} {x : Outcome α} {v : α} (h : x = .ok v) {f : α → Outcome β} {r : Outcome β} (hr : f v = r) :
    (x >>= f) = r := by
  rw [h]; exact hr

/-- a test that both sides make, each in its own form of the condition (`h`), the right side under a function `g` (`id`, or the
    `floatResult <$> ·` of a tie whose model has another error type): the two branches, each with what the test has established -/
theorem ite_congr_iff {α β} (g : β → α) {c d : Prop} [Decidable c] [Decidable d] {a b : α} {a' b' : β} (h : c ↔ d)
    (ha : d → a = g a') (hb : ¬d → b = g b') : (if c then a else b) = g (if d then a' else b') := by
  by_cases hd : d
  · rw [if_pos (h.mpr hd), if_pos hd]; exact ha hd
  · rw [if_neg (mt h.mp hd), if_neg hd]; exact hb hd

theorem wrapU_id (b n : Nat) (h : n < 2 ^ b) : Rt.wrapU b n = n := Nat.mod_eq_of_lt h

/-- the plain operator of an unsigned type, its values carried as `Nat` (generated code) or as `Int` (model) -/
theorem plainU_eq_plain (t : IntTy) (hs : t.signed = false) (prof : Profile) (x : Int) :
    Rt.plainU t.bits prof x = Int.toNat <$> t.plain prof x := by
  have hf : t.fits x = true ↔ 0 ≤ x ∧ x < 2 ^ t.bits := by
    rw [IntTy.fits_iff]; unfold IntTy.min IntTy.max
    rw [hs, if_neg Bool.false_ne_true, if_neg Bool.false_ne_true, Int.le_sub_one_iff]
  unfold Rt.plainU IntTy.plain IntTy.wrap
  rw [hs]
  exact ite_congr_iff (Int.toNat <$> ·) hf.symm (fun _ => rfl) fun _ => by cases prof.oc <;> rfl

theorem plainU8_natCast (prof : Profile) {x : Int} {n : Nat} (h : x = n) (hn : n < 256) : plainU8 prof x = .ok n :=
  plainU_ok 8 prof h hn

theorem plainU8_sub (prof : Profile) {p q : Nat} (hp : p < 256) (h : q ≤ p) : plainU8 prof ((p : Int) - q) = .ok (p - q) :=
  plainU_sub 8 prof hp h

theorem plainU32_ok (prof : Profile) {x : Int} {n : Nat} (h : x = n) (hn : n < 4294967296) : Rt.plainU 32 prof x = .ok n :=
  plainU_ok 32 prof h hn

theorem plainU32_add (prof : Profile) (a b : Nat) (h : a + b < 4294967296) :
    Rt.plainU 32 prof ((a : Int) + b) = .ok (a + b) :=
  plainU_add 32 prof a b h

/-! The scale alignment `match p.cmp(&q)` of two `u8` digit counts: the difference taken in the `Greater` / `Less` branch cannot
underflow.  Used as `cases hc : compare p q <;> simp only [hc, plainU8_sub_gt prof hp, plainU8_sub_lt prof hq, tie]`. -/

theorem plainU8_sub_gt (prof : Profile) {p q : Nat} (hp : p < 256) (hc : compare p q = .gt) :
    plainU8 prof ((p : Int) - q) = .ok (p - q) :=
  plainU8_sub prof hp (Nat.le_of_lt (Nat.compare_eq_gt.mp hc))

theorem plainU8_sub_lt (prof : Profile) {p q : Nat} (hq : q < 256) (hc : compare p q = .lt) :
    plainU8 prof ((q : Int) - p) = .ok (q - p) :=
  plainU8_sub prof hq (Nat.le_of_lt (Nat.compare_eq_lt.mp hc))

theorem divU_eq (x y : Nat) (h : y ≠ 0) : Rt.divU x y = .ok (x / y) := if_neg h
theorem remU_eq (x y : Nat) (h : y ≠ 0) : Rt.remU x y = .ok (x % y) := if_neg h

theorem sat_natCast (bits n : Nat) : Rt.sat bits (n : Int) = min n (2 ^ bits - 1) := by
  unfold Rt.sat
  rw [if_neg (Int.not_lt.mpr (Int.natCast_nonneg n))]
  by_cases h : n < 2 ^ bits
  · rw [if_pos (by exact_mod_cast h), Int.toNat_natCast, Nat.min_eq_left (Nat.le_sub_one_of_lt h)]
  · rw [if_neg (by exact_mod_cast h), Nat.min_eq_right (Nat.le_trans (Nat.sub_le _ 1) (Nat.le_of_not_lt h))]

theorem sat_sub (bits : Nat) {a : Nat} (b : Nat) (ha : a < 2 ^ bits) : Rt.sat bits ((a : Int) - (b : Int)) = a - b := by
  by_cases h : b ≤ a
  · rw [← Int.natCast_sub h, sat_natCast, Nat.min_eq_left (Nat.le_sub_one_of_lt (Nat.lt_of_le_of_lt (Nat.sub_le a b) ha))]
  · unfold Rt.sat
    rw [if_pos (Int.sub_neg_of_lt (Int.ofNat_lt.mpr (Nat.lt_of_not_le h))), Nat.sub_eq_zero_of_le (Nat.le_of_not_le h)]

theorem shl_ok (bits : Nat) (prof : Profile) (x : Nat) {n : Nat} (h : n < bits) :
    Rt.shl bits prof x n = .ok (Rt.wrapU bits (x <<< n)) := by
  unfold Rt.shl; rw [if_neg (Nat.not_le.mpr h)]; rfl

theorem shr_ok (bits : Nat) (prof : Profile) (x : Nat) {n : Nat} (h : n < bits) : Rt.shr bits prof x n = .ok (x >>> n) := by
  unfold Rt.shr; rw [if_neg (Nat.not_le.mpr h)]

theorem shlI_ok (ty : IntTy) (prof : Profile) (x : Int) {n : Nat} (h : n < ty.bits) :
    Rt.shlI ty prof x n = .ok (ty.cast (x * 2 ^ n)) := by
  unfold Rt.shlI; rw [if_neg (Nat.not_le.mpr h)]

theorem shrI_ok (ty : IntTy) (prof : Profile) (x : Int) {n : Nat} (h : n < ty.bits) : Rt.shrI ty prof x n = .ok (x >>> n) := by
  unfold Rt.shrI; rw [if_neg (Nat.not_le.mpr h)]

/- `panicOnNone` is pushed through the tests and binds of a checked core down to its leaves, where the translated operator has it -/
attribute [tie] panicOnNone_some panicOnNone_none panicOnNone_panic panicOnNone_ite panicOnNone_bind

end Fpdec.Kernels
