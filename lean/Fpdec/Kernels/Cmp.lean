import Fpdec.Gen.KCmp
import Fpdec.Model.Decimal
import Fpdec.Kernels.Pow

/-! Tie: `impl PartialEq<Decimal> for Decimal` and `impl PartialOrd<Decimal> for Decimal` (macro bodies of cmp.rs instantiated with
the arguments of their first invocation) equal the hand-written model. -/

namespace Fpdec.Kernels
open Fpdec Fpdec.Model

theorem decimal_eq_eq (prof : Profile) (x y : Dec) (hp : x.nfrac < 256) (hq : y.nfrac < 256) :
    Gen.K.decimal_eq prof x y = .ok (decimalEq x y) := by
  unfold Gen.K.decimal_eq decimalEq
  simp only [checked_adjust_coeffs_eq prof _ _ _ _ hp hq, tie]
  rcases checkedAdjustCoeffs x.coeff x.nfrac y.coeff y.nfrac with ⟨_ | a, _ | b⟩ <;> rfl

theorem decimal_partial_cmp_eq (prof : Profile) (x y : Dec) (hp : x.nfrac < 256) (hq : y.nfrac < 256) :
    Gen.K.decimal_partial_cmp prof x y = .ok (partialCmp x y) := by
  unfold Gen.K.decimal_partial_cmp partialCmp
  simp only [checked_adjust_coeffs_eq prof _ _ _ _ hp hq, tie]
  rcases checkedAdjustCoeffs x.coeff x.nfrac y.coeff y.nfrac with ⟨_ | a, _ | b⟩ <;> simp only [tie, ite_ok] <;> rfl

/-! Integer forms (macro bodies instantiated with `u64` / `i64`; the macro is the same text for every listed type). -/

theorem decimal_eq_uint_eq (prof : Profile) (d : Dec) (i : Nat) :
    Gen.K.decimal_eq_uint prof d i = .ok (decEqInt false d i) := by
  unfold Gen.K.decimal_eq_uint decEqInt
  simp only [tie, Bool.not_false, Bool.true_and]
  split; · rfl
  cases checkedMulPowTen (i : Int) d.nfrac <;> rfl

theorem decimal_eq_sint_eq (prof : Profile) (d : Dec) (i : Int) :
    Gen.K.decimal_eq_sint prof d i = .ok (decEqInt true d i) := by
  unfold Gen.K.decimal_eq_sint decEqInt
  simp only [tie, Bool.not_true, Bool.false_and]
  cases checkedMulPowTen i d.nfrac <;> rfl

theorem decimal_cmp_sint_eq (prof : Profile) (d : Dec) (i : Int) :
    Gen.K.decimal_cmp_sint prof d i = .ok (partialCmpDecInt true d i) := by
  unfold Gen.K.decimal_cmp_sint partialCmpDecInt
  simp only [tie, ite_ok]
  cases checkedMulPowTen i d.nfrac <;> rfl

theorem sint_cmp_decimal_eq (prof : Profile) (i : Int) (d : Dec) :
    Gen.K.sint_cmp_decimal prof i d = .ok (partialCmpIntDec true i d) := by
  unfold Gen.K.sint_cmp_decimal partialCmpIntDec
  simp only [tie, ite_ok]
  cases checkedMulPowTen i d.nfrac <;> rfl

theorem decimal_cmp_uint_eq (prof : Profile) (d : Dec) (i : Nat) :
    Gen.K.decimal_cmp_uint prof d i = .ok (partialCmpDecInt false d i) := by
  unfold Gen.K.decimal_cmp_uint partialCmpDecInt
  simp only [tie]
  split; · rfl
  cases checkedMulPowTen (i : Int) d.nfrac <;> rfl

theorem uint_cmp_decimal_eq (prof : Profile) (i : Nat) (d : Dec) :
    Gen.K.uint_cmp_decimal prof i d = .ok (partialCmpIntDec false i d) := by
  unfold Gen.K.uint_cmp_decimal partialCmpIntDec
  simp only [tie]
  split; · rfl
  cases checkedMulPowTen (i : Int) d.nfrac <;> rfl

/-! `eq_zero`, `eq_one`, `is_negative`, `is_positive` (macro `impl_basics` instantiated with `Decimal`): the model functions that the
other translated kernels call for these methods. -/

theorem decimal_eq_zero_eq (prof : Profile) (d : Dec) : Gen.K.decimal_eq_zero prof d = .ok (eqZero d) := rfl
theorem decimal_is_negative_eq (prof : Profile) (d : Dec) : Gen.K.decimal_is_negative prof d = .ok (isNegative d) := rfl
theorem decimal_is_positive_eq (prof : Profile) (d : Dec) : Gen.K.decimal_is_positive prof d = .ok (isPositive d) := rfl
@[tie] theorem decimal_eq_one_eq (prof : Profile) (d : Dec) : Gen.K.decimal_eq_one prof d = eqOne d := by
  unfold Gen.K.decimal_eq_one eqOne
  rw [ten_pow_eq]

end Fpdec.Kernels
