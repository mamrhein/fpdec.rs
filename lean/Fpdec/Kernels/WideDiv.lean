import Fpdec.Gen.KWideDiv
import Fpdec.Kernels.Round
import Fpdec.Lemmas.Wide

/-! Tie: generated translations of the 256-bit division stack — `u128_msb`, `u256_idiv_u64`, `u256_idiv_u128` and the two signed
wrappers `i128_shifted_div_mod_floor`, `i256_div_mod_floor` (with their sign fix-up) — equal the hand-written model.  For the Knuth
step the generated `u256_idiv_u128` calls the model's `u256IdivU128Special`; the tie of the step itself is in `Kernels.WideSpecial`. -/

namespace Fpdec.Kernels
open Fpdec Fpdec.Model

theorem u256_idiv_u64_eq (prof : Profile) (xh xl y : Nat) :
    Gen.K.u256_idiv_u64 prof xh xl y = u256IdivU64 prof xh xl y := by
  unfold Gen.K.u256_idiv_u64 u256IdivU64
  simp only [tie]
  refine else_congr ?_
  by_cases h0 : y = 0
  · rw [if_pos h0, h0]; rfl
  · simp only [if_neg h0, divU_eq _ _ h0, remU_eq _ _ h0, wrapU_128, Int.natCast_ediv, tie]

theorem u256_idiv_u128_eq (prof : Profile) (xh xl y : Nat) :
    Gen.K.u256_idiv_u128 prof xh xl y = u256IdivU128 prof xh xl y := by
  unfold Gen.K.u256_idiv_u128 u256IdivU128
  simp only [u256_idiv_u64_eq, tie]
  refine ite_congr rfl (fun _ => bind_pure _) fun h1 => ite_congr rfl (fun _ => bind_pure _) fun _ => ?_
  have hy : y ≠ 0 := fun h => h1 (by rw [h]; rfl)
  simp only [divU_eq _ _ hy, remU_eq _ _ hy, tie]

/-- the generated overflow test is the model's; past it the low quotient word is its own `as i128` -/
theorem over_congr {α} (xh xl : Nat) (a b c : Outcome α) (h : IntTy.i128.cast ((xl : Nat) : Int) = (xl : Int) → b = c) :
    (if (decide (xh ≠ 0) || decide (xl > (IntTy.u128.cast I128_MAX).toNat)) = true then a else b) =
      if xh ≠ 0 ∨ (xl : Int) > I128_MAX then a else c :=
  ite_congr_iff id (by rw [Bool.or_eq_true, decide_eq_true_eq, decide_eq_true_eq, gt_u128_cast_max]) (fun _ => rfl) fun hc =>
    h (i128_cast_id (by unfold I128_MIN; omega) (Int.not_lt.mp fun h => hc (Or.inr h)))

/- The sign fix-up as generated collects `(q, r)` from nested `if`s and wraps it in `Some` at the end; the model returns from every
   branch.  Pushing the continuation into the branches (`ite_bind'`) makes the two texts equal. -/
theorem i256_div_mod_floor_eq (prof : Profile) (x1 x2 y : Int) :
    Gen.K.i256_div_mod_floor_k prof x1 x2 y = i256DivModFloor prof x1 x2 y := by
  unfold Gen.K.i256_div_mod_floor_k i256DivModFloor
  refine bind_congr _ (fun _ => ?_)
  rw [u128_mul_u128_eq]
  refine bind_congr _ (fun hl => ?_)
  simp only [u256_idiv_u128_eq]
  refine bind_congr _ (fun qr => over_congr _ _ _ _ _ fun hq => ?_)
  rw [hq]
  simp only [ite_bind', bind_assoc', bind_ok', pure_eq', decide_eq_true_eq, bne_iff_ne]

theorem i128_shifted_div_mod_floor_eq (prof : Profile) (x : Int) (p : Nat) (y : Int) :
    Gen.K.i128_shifted_div_mod_floor_k prof x p y = i128ShiftedDivModFloor prof x p y := by
  unfold Gen.K.i128_shifted_div_mod_floor_k i128ShiftedDivModFloor
  rw [ten_pow_eq]
  refine bind_congr _ (fun t => ?_)
  rw [u128_mul_u128_eq]
  refine bind_congr _ (fun hl => ?_)
  simp only [u256_idiv_u128_eq]
  refine bind_congr _ (fun qr => over_congr _ _ _ _ _ fun hq => ?_)
  rw [hq]
  simp only [ite_bind', bind_assoc', bind_ok', pure_eq', decide_eq_true_eq]

/-- One step of the binary search as generated, followed by the rest `f` of the text: it is `msbStep`, and `Wide.MsbInv` passes
    to the next step.  `c` is the computation of the new count. -/
theorem msb_step {i : Nat} (k : Nat) {mask : Nat} (hm : mask = (2 ^ k - 1) <<< k) {st : Nat × Nat} (h : Wide.MsbInv i (2 * k) st)
    (c : Outcome Nat) (hc : c = .ok (st.1 + k)) {f : Nat × Nat → Outcome Nat} {rhs : Outcome Nat}
    (hf : Wide.MsbInv i k (msbStep mask k st) → f (msbStep mask k st) = rhs) :
    ((if decide ((st.2 &&& mask) ≠ 0) = true then (do
        let t ← c
        pure (t, st.2 >>> k)) else (do pure (st.1, st.2)) : Outcome (Nat × Nat)) >>= f) = rhs := by
  rw [← hf (Wide.msbInv_step k hm h)]
  unfold msbStep
  subst hc
  by_cases h : (st.2 &&& mask) = 0 <;> simp [h]

/-- … where the count is a `u8` sum that the invariant keeps below 256; `s` is the literal as it stands in the text -/
theorem msb_step_add (prof : Profile) {i : Nat} (k : Nat) {mask : Nat} (hm : mask = (2 ^ k - 1) <<< k) (s : Int) (hs : s = (k : Int))
    {st : Nat × Nat} (h : Wide.MsbInv i (2 * k) st) {f : Nat × Nat → Outcome Nat} {rhs : Outcome Nat}
    (hf : Wide.MsbInv i k (msbStep mask k st) → f (msbStep mask k st) = rhs) :
    ((if decide ((st.2 &&& mask) ≠ 0) = true then (do
        let t ← plainU8 prof ((st.1 : Int) + s)
        pure (t, st.2 >>> k)) else (do pure (st.1, st.2)) : Outcome (Nat × Nat)) >>= f) = rhs :=
  msb_step k hm h _ (plainU8_natCast prof (by rw [hs, Int.natCast_add]) h.add_lt) hf

/-- the `u8` additions cannot overflow and the residue indexes the table unwrapped: `Wide.MsbInv` along the five steps -/
theorem u128_msb_eq (prof : Profile) (i : Nat) (hi : i < U128_MOD) :
    Gen.K.u128_msb prof i = u128Msb prof i := by
  unfold Gen.K.u128_msb u128Msb
  rw [show decide (i ≠ 0) = (i != 0) by by_cases h : i = 0 <;> simp [h]]
  cases debugAssert prof (i != 0) with
  | panic k => rfl
  | ok u =>
    rw [bind_ok']
    -- the first step assigns `n = 64` without an addition
    refine msb_step 64 rfl (Wide.msbInv_init hi) (.ok 64) rfl fun h => ?_
    refine msb_step_add prof 32 rfl 32 rfl h fun h => ?_
    refine msb_step_add prof 16 rfl 16 rfl h fun h => ?_
    refine msb_step_add prof 8 rfl 8 rfl h fun h => ?_
    refine msb_step_add prof 4 rfl 4 rfl h fun h => ?_
    dsimp only
    generalize msbStep _ 4 _ = st at h ⊢
    rw [wrapU_id 64 _ (Nat.lt_trans h.2.1 (by decide))]
    unfold Rt.index
    cases Gen.MSB_IDX_MAP[st.2]? with
    | none => rfl
    | some m =>
      rw [bind_ok']
      dsimp only
      cases plainU8 prof ((st.1 : Int) + (m : Int)) <;> rfl

end Fpdec.Kernels
