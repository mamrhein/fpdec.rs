import Fpdec.Gen.KUnops
import Fpdec.Gen.KDecUnops
import Fpdec.Gen.KLog
import Fpdec.Gen.KMagn
import Fpdec.Gen.KNumTraits
import Fpdec.Model.Core
import Fpdec.Lemmas.UnaryLog
import Fpdec.Model.Decimal
import Fpdec.Kernels.Cmp
import Fpdec.Kernels.AddSub
import Fpdec.Kernels.IntConv
import Fpdec.Kernels.FromStr

/-!
Ties of the unary operations: floor / ceiling division (`DivModInt`) and the unary operators of `Decimal` (src/unops.rs), the
base-10 logarithm helpers of fpdec-core/src/lib.rs with `i128_magnitude` and `Decimal::magnitude` built on them, `Decimal::new_raw`
(src/lib.rs), and the `num-traits` forwarders (src/num_traits.rs).
-/

namespace Fpdec.Kernels
open Fpdec Fpdec.Model

@[tie] theorem div_floor_eq (prof : Profile) (x y : Int) : Gen.K.div_floor prof x y = divFloorI128 prof x y := by
  unfold Gen.K.div_floor Gen.K.divmod divFloorI128
  simp only [tie, bind_assoc']

@[tie] theorem div_ceil_eq (prof : Profile) (x y : Int) : Gen.K.div_ceil prof x y = divCeilI128 prof x y := by
  unfold Gen.K.div_ceil Gen.K.divmod divCeilI128
  simp only [tie, bind_assoc']

theorem decimal_neg_eq (prof : Profile) (d : Dec) : Gen.K.decimal_neg prof d = neg prof d := rfl
theorem decimal_ref_neg_eq (prof : Profile) (d : Dec) : Gen.K.decimal_ref_neg prof d = neg prof d := rfl
@[tie] theorem decimal_abs_eq (prof : Profile) (d : Dec) : Gen.K.decimal_abs prof d = abs prof d := rfl

theorem decimal_floor_eq (prof : Profile) (d : Dec) : Gen.K.decimal_floor prof d = floor prof d := by
  unfold Gen.K.decimal_floor floor
  cases d.nfrac <;> simp only [tie]

theorem decimal_ceil_eq (prof : Profile) (d : Dec) : Gen.K.decimal_ceil prof d = ceil prof d := by
  unfold Gen.K.decimal_ceil ceil
  cases d.nfrac <;> simp only [tie]

theorem decimal_trunc_eq (prof : Profile) (d : Dec) : Gen.K.decimal_trunc prof d = trunc d := by
  unfold Gen.K.decimal_trunc trunc
  cases d.nfrac <;> simp only [tie]

@[tie] theorem decimal_fract_eq (prof : Profile) (d : Dec) : Gen.K.decimal_fract prof d = fract d := by
  unfold Gen.K.decimal_fract fract
  cases d.nfrac <;> simp only [tie]

/-! The base-10 logarithm helpers.  The model has no overflow effects in these functions; the ties prove that none can fire (the
plain `+` on `u32` stays far below `2^32` for every argument the callers can pass). -/

/-- the bound on `val` is `2^32` less the largest of the four constants -/
theorem less_than_5_eq (prof : Profile) (val : Nat) (h : val < 4294050792) :
    Gen.K.less_than_5 prof val = .ok (lessThan5 val) := by
  have add (c : Nat) (C : Int) (hC : C = c) (hc : c ≤ 916504) : Rt.plainU 32 prof ((val : Int) + C) = .ok (val + c) :=
    hC ▸ plainU32_add prof val c
      (Nat.lt_of_lt_of_le (Nat.add_lt_add_left (Nat.lt_succ_of_le hc) val) (Nat.succ_le_of_lt (Nat.add_lt_of_lt_sub h)))
  unfold Gen.K.less_than_5
  rw [add 393206 393206 rfl (by decide), add 524188 524188 rfl (by decide), add 916504 916504 rfl (by decide),
    add 514288 514288 rfl (by decide)]
  rfl

/-- one range reduction of the `ilog10` helpers, `if val >= T { val /= T; log += k }`, followed by the rest `f`; `K` is the
literal as it stands in the text -/
theorem log_step (prof : Profile) (T k : Nat) (K : Int) (hK : K = k) (val log : Nat) (h : log + k < 4294967296) {β}
    (f : Nat × Nat → Outcome β) :
    ((if decide (val ≥ T) = true then (do
        let t ← Rt.plainU 32 prof ((log : Int) + K)
        pure (val / T, t)) else pure (val, log) : Outcome (Nat × Nat)) >>= f) =
      f (if val ≥ T then (val / T, log + k) else (val, log)) := by
  by_cases hv : val ≥ T
  · rw [if_pos (decide_eq_true hv), if_pos hv, hK, plainU32_add prof log k h]; rfl
  · rw [if_neg (by rwa [decide_eq_true_eq]), if_neg hv]; rfl

/-- what a reduction step leaves of a value below `T²`: less than `T`, and a count raised by at most `k` -/
theorem log_step_bound (val T log k : Nat) (h : val < T * T) :
    (if val ≥ T then (val / T, log + k) else (val, log)).1 < T ∧
    (if val ≥ T then (val / T, log + k) else (val, log)).2 ≤ log + k := by
  split
  · exact ⟨Nat.div_lt_of_lt_mul h, Nat.le_refl _⟩
  · exact ⟨Nat.not_le.mp ‹_›, Nat.le_add_right _ _⟩

/-- the last step: the logarithm of what is left, added to the count -/
theorem log_fin (prof : Profile) (val log : Nat) (hv : val < 4294050792) (hl : log < 4294000000) :
    (Gen.K.less_than_5 prof val >>= fun t => Rt.plainU 32 prof ((log : Int) + t)) = .ok (log + lessThan5 val) := by
  have := lessThan5_lt val (Nat.lt_trans hv (by decide))
  rw [less_than_5_eq prof val hv, bind_ok', plainU32_add prof log _ (by omega)]

theorem log10_u32_eq (prof : Profile) (val : Nat) (h : val < 4294967296) :
    Gen.K.u32 prof val = .ok (log10U32 val) := by
  unfold Gen.K.u32 log10U32 Gen.LOG_U32_T
  rw [log_step prof _ 5 5 rfl val 0 (by decide)]
  by_cases hv : val ≥ 100000
  · rw [if_pos hv, if_pos hv]; exact log_fin prof _ _ (by omega) (by decide)
  · rw [if_neg hv, if_neg hv, ← Nat.zero_add (lessThan5 val)]; exact log_fin prof val 0 (by omega) (by decide)

theorem log10_u64_eq (prof : Profile) (val : Nat) (h : val < 18446744073709551616) :
    Gen.K.u64 prof val = .ok (log10U64 val) := by
  unfold Gen.K.u64 log10U64 Gen.LOG_U64_T1 Gen.LOG_U64_T2
  rw [log_step prof _ 10 10 rfl val 0 (by decide)]
  have ha := log_step_bound val 10000000000 0 10 (by omega)
  generalize (if val ≥ 10000000000 then (val / 10000000000, 0 + 10) else (val, 0)) = p at ha ⊢
  obtain ⟨a, l⟩ := p
  dsimp only at ha ⊢
  rw [log_step prof _ 5 5 rfl a l (by omega)]
  have hb := log_step_bound a 100000 l 5 (by omega)
  generalize (if a ≥ 100000 then (a / 100000, l + 5) else (a, l)) = q at hb ⊢
  obtain ⟨b, m⟩ := q
  dsimp only at hb ⊢
  rw [wrapU_id 32 b (by omega), Nat.mod_eq_of_lt (show b < 2 ^ 32 by omega)]
  exact log_fin prof b m (by omega) (by omega)

theorem log10_u128_eq (prof : Profile) (val : Nat) (h : val < 340282366920938463463374607431768211456) :
    Gen.K.u128 prof val = .ok (log10U128 val) := by
  unfold Gen.K.u128 log10U128 Gen.LOG_U128_T1 Gen.LOG_U128_T2
  by_cases h1 : val ≥ 100000000000000000000000000000000
  · have hb : val / 100000000000000000000000000000000 < 4294967296 := by omega
    have hb' : val / 100000000000000000000000000000000 < 2 ^ 32 := hb
    have hl := log10U32_lt _ hb'
    simp only [h1, if_true, plainU32_ok prof (x := ((0 : Nat) : Int) + 32) (n := 32) rfl (by decide), wrapU_id 32 _ hb',
      log10_u32_eq prof _ hb, Nat.mod_eq_of_lt hb', tie]
    exact plainU32_add prof 32 _ (by omega)
  · rw [if_neg (by rwa [decide_eq_true_eq]), if_neg h1, log_step prof _ 16 16 rfl val 0 (by decide)]
    have ha := log_step_bound val 10000000000000000 0 16 (by omega)
    generalize (if val ≥ 10000000000000000 then (val / 10000000000000000, 0 + 16) else (val, 0)) = p at ha ⊢
    obtain ⟨a, l⟩ := p
    have hl := log10U64_lt a
    dsimp only at ha ⊢
    have ha64 : a < 18446744073709551616 := by omega
    rw [wrapU_id 64 a ha64, Nat.mod_eq_of_lt (show a < 2 ^ 64 from ha64), log10_u64_eq prof a ha64, bind_ok']
    exact plainU32_add prof l _ (by omega)

theorem i128_magnitude_eq (prof : Profile) (i : Int) (h : I128_MIN ≤ i ∧ i ≤ I128_MAX) :
    Gen.K.i128_magnitude prof i = .ok (i128Magnitude i) := by
  unfold Gen.K.i128_magnitude i128Magnitude
  obtain ⟨h1, h2⟩ := h
  unfold I128_MIN at h1; unfold I128_MAX at h2
  rw [log10_u128_eq prof i.natAbs (by omega)]
  rfl

theorem decimal_magnitude_eq (prof : Profile) (d : Dec) (h : I128_MIN ≤ d.coeff ∧ d.coeff ≤ I128_MAX) :
    Gen.K.decimal_magnitude prof d = magnitude prof d := by
  unfold Gen.K.decimal_magnitude magnitude
  by_cases hc : d.coeff = 0
  · simp [hc]
  · simp only [hc, decide_false, Bool.false_eq_true, if_false]
    rw [i128_magnitude_eq prof _ h, bind_ok']

theorem decimal_new_raw_eq (prof : Profile) (c : Int) (n : Nat) :
    Gen.K.decimal_new_raw prof c n = (if prof.da = true ∧ ¬ n ≤ 18 then .panic .assert else .ok ⟨c, n⟩) := by
  unfold Gen.K.decimal_new_raw debugAssert Gen.MAX_N_FRAC_DIGITS
  by_cases hd : prof.da = true <;> by_cases hn : n ≤ 18 <;> simp [hd, hn] <;> rfl

theorem nt_zero_eq (prof : Profile) : Gen.K.nt_zero prof = .ok Dec.ZERO := rfl
theorem nt_one_eq (prof : Profile) : Gen.K.nt_one prof = .ok Dec.ONE := rfl
theorem nt_is_zero_eq (prof : Profile) (d : Dec) : Gen.K.nt_is_zero prof d = .ok (eqZero d) := rfl
theorem nt_is_positive_eq (prof : Profile) (d : Dec) : Gen.K.nt_is_positive prof d = .ok (isPositive d) := rfl
theorem nt_is_negative_eq (prof : Profile) (d : Dec) : Gen.K.nt_is_negative prof d = .ok (isNegative d) := rfl

theorem nt_is_one_eq (prof : Profile) (d : Dec) : Gen.K.nt_is_one prof d = eqOne d := by
  unfold Gen.K.nt_is_one
  cases eqOne d <;> rfl

theorem nt_abs_eq (prof : Profile) (d : Dec) : Gen.K.nt_abs prof d = abs prof d := rfl

theorem nt_signum_eq (prof : Profile) (d : Dec) : Gen.K.nt_signum prof d = .ok (fromInt (Int.sign d.coeff)) := rfl

theorem nt_from_str_radix_eq (prof : Profile) (s : List Nat) (radix : Nat) :
    Gen.K.nt_from_str_radix prof s radix = (if radix ≠ 10 then .ok (.error .invalid) else fromStr prof s) := by
  unfold Gen.K.nt_from_str_radix
  simp only [decimal_from_str_eq, tie]

/-- `Signed::abs_sub`: zero when `self <= other` (through `partial_cmp`), else the difference -/
theorem nt_abs_sub_eq (prof : Profile) (x y : Dec) (hp : x.nfrac < 256) (hq : y.nfrac < 256) :
    Gen.K.nt_abs_sub prof x y =
      (if partialCmp x y = some .lt ∨ partialCmp x y = some .eq then .ok Dec.ZERO else addSub true x y) := by
  unfold Gen.K.nt_abs_sub
  simp only [decimal_partial_cmp_eq prof x y hp hq, (add_sub_eq prof true x y hp hq).symm, tie]

end Fpdec.Kernels
