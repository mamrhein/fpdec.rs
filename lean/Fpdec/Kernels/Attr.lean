import Lean.Meta.Tactic.Simp.RegisterCommand

/-- The rewriting set of the kernel ties: normal forms of `Outcome` programs and of the conditions the translator emits
(`decide p = true`, `(decide p && decide q) = true`), and the ties themselves (`Gen.K.f … = Model.f …`).  A tie is proved by
unfolding both sides and rewriting with `simp only [tie]`: what is left, if anything, is a difference of form at a leaf. -/
register_simp_attr tie
