import Fpdec.Gen.KForward
import Fpdec.Gen.KForward2
import Fpdec.Kernels.AddSub
import Fpdec.Kernels.Cmp
import Fpdec.Kernels.MulDiv

/-!
Ties of the reference and assign forms of the binary operators (src/binops/mod.rs, div_rounded.rs): each is the by-value form.
-/

namespace Fpdec.Kernels
open Fpdec Fpdec.Model

/-! The forwarding macros of src/binops/mod.rs (`forward_ref_binop!`, `forward_ref_binop_rounded!`,
`forward_ref_binop_decimal_int!`, `forward_op_assign!`), translated from the macro text.  The macro bodies do not depend on the
operator they are instantiated with; which operators they are invoked for is part of the skeleton tie. -/

theorem ref_add_val_eq (prof : Profile) (x y : Dec) : Gen.K.ref_add_val prof x y = Gen.K.decimal_add prof x y := rfl
theorem val_add_ref_eq (prof : Profile) (x y : Dec) : Gen.K.val_add_ref prof x y = Gen.K.decimal_add prof x y := rfl
theorem ref_add_ref_eq (prof : Profile) (x y : Dec) : Gen.K.ref_add_ref prof x y = Gen.K.decimal_add prof x y := rfl
theorem add_assign_eq (prof : Profile) (x y : Dec) : Gen.K.add_assign prof x y = Gen.K.decimal_add prof x y :=
  bind_pure (Gen.K.decimal_add prof x y)

theorem ref_mulr_val_eq (prof : Profile) (tm : Mode) (x y : Dec) (n : Nat) :
    Gen.K.ref_mulr_val prof tm x y n = Gen.K.decimal_mul_rounded prof tm x y n := rfl
theorem val_mulr_ref_eq (prof : Profile) (tm : Mode) (x y : Dec) (n : Nat) :
    Gen.K.val_mulr_ref prof tm x y n = Gen.K.decimal_mul_rounded prof tm x y n := rfl
theorem ref_mulr_ref_eq (prof : Profile) (tm : Mode) (x y : Dec) (n : Nat) :
    Gen.K.ref_mulr_ref prof tm x y n = Gen.K.decimal_mul_rounded prof tm x y n := rfl

theorem ref_add_int_eq (prof : Profile) (d : Dec) (i : Int) : Gen.K.ref_add_int prof d i = Gen.K.decimal_add_int prof d i := rfl
theorem val_add_refint_eq (prof : Profile) (d : Dec) (i : Int) : Gen.K.val_add_refint prof d i = Gen.K.decimal_add_int prof d i := rfl
theorem ref_add_refint_eq (prof : Profile) (d : Dec) (i : Int) : Gen.K.ref_add_refint prof d i = Gen.K.decimal_add_int prof d i := rfl
theorem refint_add_val_eq (prof : Profile) (i : Int) (d : Dec) : Gen.K.refint_add_val prof i d = Gen.K.int_add_decimal prof i d := rfl
theorem int_add_ref_eq (prof : Profile) (i : Int) (d : Dec) : Gen.K.int_add_ref prof i d = Gen.K.int_add_decimal prof i d := rfl
theorem refint_add_ref_eq (prof : Profile) (i : Int) (d : Dec) : Gen.K.refint_add_ref prof i d = Gen.K.int_add_decimal prof i d := rfl

/-! The hand-written reference forms of `div_rounded` with an integer operand (the two macros of src/binops/div_rounded.rs:
`&Decimal / int`, `Decimal / &int`, `&Decimal / &int`, `&int / Decimal`, `int / &Decimal`, `&int / &Decimal`, `&int / int`, `int / &int`,
`&int / &int`), and `int == Decimal`, which is `Decimal == int` with the operands exchanged. -/

theorem refdec_divr_int_eq (prof : Profile) (tm : Mode) (d : Dec) (i : Int) (n : Nat) :
    Gen.K.refdec_divr_int prof tm d i n = Gen.K.decimal_div_rounded_int prof tm d i n := rfl
theorem dec_divr_refint_eq (prof : Profile) (tm : Mode) (d : Dec) (i : Int) (n : Nat) :
    Gen.K.dec_divr_refint prof tm d i n = Gen.K.decimal_div_rounded_int prof tm d i n := rfl
theorem refdec_divr_refint_eq (prof : Profile) (tm : Mode) (d : Dec) (i : Int) (n : Nat) :
    Gen.K.refdec_divr_refint prof tm d i n = Gen.K.decimal_div_rounded_int prof tm d i n := rfl
theorem refint_divr_dec_eq (prof : Profile) (tm : Mode) (i : Int) (d : Dec) (n : Nat) :
    Gen.K.refint_divr_dec prof tm i d n = Gen.K.int_div_rounded_decimal prof tm i d n := rfl
theorem int_divr_refdec_eq (prof : Profile) (tm : Mode) (i : Int) (d : Dec) (n : Nat) :
    Gen.K.int_divr_refdec prof tm i d n = Gen.K.int_div_rounded_decimal prof tm i d n := rfl
theorem refint_divr_refdec_eq (prof : Profile) (tm : Mode) (i : Int) (d : Dec) (n : Nat) :
    Gen.K.refint_divr_refdec prof tm i d n = Gen.K.int_div_rounded_decimal prof tm i d n := rfl
theorem refint_divr_int_eq (prof : Profile) (tm : Mode) (i j : Int) (n : Nat) :
    Gen.K.refint_divr_int prof tm i j n = Gen.K.int_div_rounded_int prof tm i j n := rfl
theorem int_divr_refint_eq (prof : Profile) (tm : Mode) (i j : Int) (n : Nat) :
    Gen.K.int_divr_refint prof tm i j n = Gen.K.int_div_rounded_int prof tm i j n := rfl
theorem refint_divr_refint_eq (prof : Profile) (tm : Mode) (i j : Int) (n : Nat) :
    Gen.K.refint_divr_refint prof tm i j n = Gen.K.int_div_rounded_int prof tm i j n := rfl

theorem sint_eq_decimal_eq (prof : Profile) (i : Int) (d : Dec) :
    Gen.K.sint_eq_decimal prof i d = .ok (decEqInt true d i) := by
  unfold Gen.K.sint_eq_decimal
  rw [decimal_eq_sint_eq]

end Fpdec.Kernels
