import Fpdec.Gen.KFormat
import Fpdec.Kernels.Round
import Fpdec.Lemmas.Text

/-! Tie: the generated translations of `impl From<Decimal> for String`, `impl Debug for Decimal` (macro `impl_debug` instantiated
with `Decimal, "Dec!"`) and `impl Display for Decimal` (src/format.rs) equal the hand-written model on the domain of the
properties.  `format!` / `write!` are translated placeholder by placeholder: `{}` of an integer is `Model.fmtInt`, `{:0width$}` is
the sign-aware `Model.fmtZeroPadInt`, `Formatter::precision` / `pad_integral` are the modelled std functions of `Fpdec/Std.lean`.
On the domain both sides run without a panic, so each tie evaluates both with the facts of Lemmas/TextBody.lean. -/

namespace Fpdec.Kernels
open Fpdec Fpdec.Model

theorem fmtZeroPadInt_natCast (n w : Nat) : fmtZeroPadInt (n : Int) w = fmtZeroPad n w := by
  unfold fmtZeroPadInt
  rw [if_neg (by omega)]
  rfl

theorem string_from_decimal_eq (prof : Profile) (d : Dec) (hd : Dom d) :
    Gen.K.string_from_decimal prof d = toStringDec prof d := by
  obtain ⟨h1, h2, h3⟩ := hd
  have hA := natAbs_le_max ⟨h1, h2⟩
  have h38 : d.nfrac ≤ 38 := Nat.le_trans h3 (by decide)
  unfold Gen.K.string_from_decimal toStringDec
  by_cases h0 : d.nfrac = 0
  · simp only [h0, decide_true, if_true, pure_eq']
  · simp only [h0, decide_false, Bool.false_eq_true, if_false, abs_ok prof ⟨h1, h2⟩, ten_pow_eq,
      tenPow_ok _ h38, bind_ok', i128_div_mod_floor_eq, floorPow10 prof _ _ hA h38,
      pure_eq', fmtZeroPadInt_natCast, Int.toNat_natCast, decide_eq_true_eq]

/-- `Debug` is `String::from` inside `Dec!(…)`, whatever the Decimal -/
theorem decimal_debug_fmt_wrap (prof : Profile) (d : Dec) (f : Std.FmtSpec) :
    Gen.K.decimal_debug_fmt prof d f =
      Gen.K.string_from_decimal prof d >>= fun s => pure ([68, 101, 99, 33, 40] ++ s ++ [41]) := by
  unfold Gen.K.decimal_debug_fmt Gen.K.string_from_decimal
  split
  · rfl
  · simp only [bind_assoc']
    refine bind_congr _ (fun t1 => bind_congr _ (fun t2 => bind_congr _ (fun t3 => ?_)))
    simp only [pure_eq', bind_ok', List.append_assoc]

theorem decimal_debug_fmt_eq (prof : Profile) (d : Dec) (f : Std.FmtSpec) (hd : Dom d) :
    Gen.K.decimal_debug_fmt prof d f = debugDec prof d := by
  rw [decimal_debug_fmt_wrap, string_from_decimal_eq prof d hd]
  rfl

theorem decimal_display_fmt_some (prof : Profile) (tm : Mode) (d : Dec) (f : Std.FmtSpec) (hd : Dom d) (pr : Nat)
    (hf : f.prec = some pr) : Gen.K.decimal_display_fmt prof tm d f = display prof tm f d := by
  obtain ⟨h1, h2, h3⟩ := hd
  have hA := natAbs_le_max ⟨h1, h2⟩
  have hw : Rt.wrapU 8 (min pr Gen.MAX_N_FRAC_DIGITS) = Nat.min pr Gen.MAX_N_FRAC_DIGITS :=
    wrapU_id 8 _ (Nat.lt_of_le_of_lt (Nat.min_le_right _ _) (by decide))
  have hP18 : Nat.min pr Gen.MAX_N_FRAC_DIGITS ≤ 18 := Nat.min_le_right _ _
  unfold Gen.K.decimal_display_fmt display
  simp only [hf, hw, abs_ok prof ⟨h1, h2⟩, bind_ok']
  generalize Nat.min pr Gen.MAX_N_FRAC_DIGITS = P at hP18 ⊢
  have h38 : d.nfrac ≤ 38 := Nat.le_trans h3 (by decide)
  have hP38 : P ≤ 38 := Nat.le_trans hP18 (by decide)
  have hn := tenPow_ok d.nfrac h38
  have hfl := floorPow10 prof _ _ hA h38
  by_cases h0 : d.nfrac = 0
  · simp only [h0, decide_true, if_true, ite_bind', pure_eq', bind_ok', decide_eq_true_eq]
    rfl
  · simp only [h0, decide_false, Bool.false_eq_true, if_false]
    rcases Nat.lt_trichotomy P d.nfrac with hlt | heq | hgt
    · have hcf : fitsI128 d.coeff = true := (fitsI128_iff _).mpr ⟨Int.le_of_lt h1, h2⟩
      have hc := (specRound_dom tm d.coeff ((10 : Int) ^ (d.nfrac - P)) ⟨h1, h2⟩ (pow10_pos _)).1
      have hC := natAbs_le_max hc
      simp only [Nat.compare_eq_lt.2 hlt, plainU8_sub prof (Nat.lt_of_le_of_lt h38 (by decide)) (Nat.le_of_lt hlt), bind_ok', ten_pow_eq,
        tenPow_ok (d.nfrac - P) (Nat.le_trans (Nat.sub_le _ _) h38), tenPow_ok P hP38, i128_div_rounded_eq prof tm _ _ none hcf,
        i128DivRounded_pos prof tm none _ _ hcf (pow10_pos _) (pow10_le_max (Nat.le_trans (Nat.sub_le _ _) h38)),
        Option.getD_none, abs_ok prof hc, i128_div_mod_floor_eq, floorPow10 prof _ _ hC hP38,
        ite_bind', pure_eq', decide_eq_true_eq, fmtZeroPadInt_natCast, Int.toNat_natCast]
    · subst heq
      simp only [Nat.compare_eq_eq.2 rfl, ten_pow_eq, hn, bind_ok', i128_div_mod_floor_eq, hfl,
        ite_bind', pure_eq', decide_eq_true_eq, fmtZeroPadInt_natCast, Int.toNat_natCast]
    · simp only [Nat.compare_eq_gt.2 hgt, ten_pow_eq, hn, bind_ok', i128_div_mod_floor_eq, hfl,
        plainU8_sub prof (Nat.lt_of_le_of_lt hP38 (by decide)) (Nat.le_of_lt hgt), tenPow_ok (P - d.nfrac) (Nat.le_trans (Nat.sub_le _ _) hP38),
        scaleFrac_ok prof _ _ _ (Nat.le_of_lt hgt) hP38,
        ite_bind', pure_eq', decide_eq_true_eq, fmtZeroPadInt_natCast, Int.toNat_natCast]

/-- no precision is the precision `d.nfrac`, as for the model (`display_none_eq`) -/
theorem decimal_display_fmt_none (prof : Profile) (tm : Mode) (d : Dec) (f : Std.FmtSpec) (h : d.nfrac ≤ 18)
    (hf : f.prec = none) :
    Gen.K.decimal_display_fmt prof tm d f = Gen.K.decimal_display_fmt prof tm d { f with prec := some d.nfrac } := by
  have : Rt.wrapU 8 (min d.nfrac Gen.MAX_N_FRAC_DIGITS) = d.nfrac := by
    rw [max_nfrac, Nat.min_eq_left h]; exact wrapU_id 8 _ (by omega)
  unfold Gen.K.decimal_display_fmt
  simp only [hf, this, padIntegral_prec]

theorem decimal_display_fmt_eq (prof : Profile) (tm : Mode) (d : Dec) (f : Std.FmtSpec) (hd : Dom d) :
    Gen.K.decimal_display_fmt prof tm d f = display prof tm f d := by
  cases hf : f.prec with
  | some pr => exact decimal_display_fmt_some prof tm d f hd pr hf
  | none =>
    rw [decimal_display_fmt_none prof tm d f hd.2.2 hf, display_none_eq prof tm f d hd.2.2 hf]
    exact decimal_display_fmt_some prof tm d _ hd d.nfrac rfl

end Fpdec.Kernels
