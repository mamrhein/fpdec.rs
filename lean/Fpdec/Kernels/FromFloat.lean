import Fpdec.Gen.KFloat
import Fpdec.Model.Float
import Fpdec.Kernels.Lib
import Fpdec.Lemmas.FromFloatTail
import Fpdec.Lemmas.FromFloatDecode

/-!
Ties of src/from_float.rs: `approx_rational`, the two decode functions and the two `TryFrom<f32 / f64>` impls.
-/

namespace Fpdec.Kernels
open Fpdec Fpdec.Model

/-! `approx_rational`: its digit loop is translated as fuel-bounded recursion; the model's `approxLoop` counts the remaining
iterations allowed by `n_frac_digits < 18`. -/

/-- projection of the generated loop state `(rem, n_frac_digits, magn_coeff, coeff)` onto the model's `(coeff, rem, nfrac)` -/
def projLoop : Int × Nat × Nat × Int → Int × Int × Nat := fun s => (s.2.2.2, s.1, s.2.1)

theorem approx_loop_eq (prof : Profile) (d : Int) : ∀ (F k : Nat) (coeff rem : Int) (n magn : Nat),
    n + k = 18 → k < F → magn < 256 →
    projLoop <$> Gen.K.approx_rational_loop1 prof d F rem n magn coeff = approxLoop prof d k coeff rem n magn
  | 0, k, _, _, _, _, _, h, _ => absurd h (Nat.not_lt_zero _)
  | F + 1, k, coeff, rem, n, magn, hk, hF, hm => by
    have h37 : plainU8 prof ((Gen.FROM_FLT_MAGN_I128_MAX : Int) - 1) = .ok 37 := rfl
    unfold Gen.K.approx_rational_loop1
    cases k with
    | zero =>
      have hn : ¬ n < Gen.MAX_N_FRAC_DIGITS := Nat.not_lt.mpr (Nat.le_of_eq hk.symm)
      simp only [hn, and_false, tie]
      rfl
    | succ k =>
      have hn : n < Gen.MAX_N_FRAC_DIGITS := show n < 18 from hk ▸ Nat.lt_add_of_pos_right (Nat.succ_pos k)
      unfold approxLoop
      simp only [hn, and_true, h37, tie]
      by_cases hc : rem ≠ 0 ∧ magn < 37
      · rw [if_pos hc.1, bind_ok', if_pos (decide_eq_true hc.2), if_pos (show _ ∧ magn < Gen.FROM_FLT_MAGN_I128_MAX - 1 from hc)]
        simp only [map_bind, plainU8_natCast prof (Int.natCast_succ n).symm (Nat.lt_of_le_of_lt (Nat.succ_le_of_lt hn) (by decide)),
          plainU8_natCast prof (Int.natCast_succ magn).symm (Nat.lt_of_le_of_lt (Nat.succ_le_of_lt hc.2) (by decide)), tie]
        refine bind_congr _ fun r10 => bind_congr _ fun q => bind_congr _ fun r => bind_congr _ fun c10 => bind_congr _ fun c => ?_
        exact approx_loop_eq prof d F k c r (n + 1) (magn + 1) ((Nat.succ_add_eq_add_succ n k).trans hk) (Nat.lt_of_succ_lt_succ hF)
          (Nat.lt_of_le_of_lt (Nat.succ_le_of_lt hc.2) (by decide))
      · have : (if rem ≠ 0 then Outcome.ok (decide (magn < 37)) else .ok false) = .ok false := by
          by_cases hr : rem ≠ 0
          · rw [if_pos hr, decide_eq_false fun h => hc ⟨hr, h⟩]
          · rw [if_neg hr]
        rw [this, bind_ok', if_neg Bool.false_ne_true, if_neg (show ¬ (_ ∧ magn < Gen.FROM_FLT_MAGN_I128_MAX - 1) from hc)]
        rfl

theorem approx_rational_eq (prof : Profile) (a d : Int) :
    Gen.K.approx_rational prof a d = approxRational prof a d := by
  unfold Gen.K.approx_rational approxRational
  simp only [tie]
  refine bind_congr _ fun _ => else_congr (else_congr ?_)
  cases plainI128 prof (if a < 0 then -a else a) with
  | panic k => rfl
  | ok a' =>
    simp only [tie]
    refine bind_congr _ fun coeff => bind_congr _ fun rem => ?_
    have hl := approx_loop_eq prof d 32 18 coeff rem 0 (i128Magnitude coeff) (by decide) (by decide) (i128Magnitude_lt coeff)
    rw [show Gen.MAX_N_FRAC_DIGITS = 18 from rfl, ← hl, bind_map]
    refine bind_congr_post (hl ▸ approxLoop_nfrac prof d 18 coeff rem 0 _).of_map fun ⟨r, nf, mg, c⟩ hnf => ?_
    simp only [projLoop, show (2 : Int) ^ 1 = 2 from rfl, ite_bind', normalize_eq prof _ nf (Nat.lt_of_le_of_lt hnf (by decide)),
      tie]
    rfl

/-! `f64_decode` / `f32_decode`: the model's `floatDecode` takes its constants from the generated table `decodeConsts`; the plain
`i16` / `i8` operations of the Rust code never overflow. -/

/-- The code of `f64_decode` / `f32_decode` as translated, with its eight literals as variables, is `floatDecode` for a format
    that has these as its constants: a biased exponent below `2^15` survives the `as i16`, and with `bias + fracShift ≤ 2^15`
    neither subtraction leaves the `i16` range. -/
theorem decode_eq (prof : Profile) (f : Spec.FloatFmt) (es em ne fm ib bias fs ss : Nat)
    (hc : decodeConsts f = #[es, em, ne, fm, ib, bias, fs, ss])
    (hem : em < 32768) (hbias : bias + fs ≤ 32768) (bits : Nat) (hs : bits >>> ss < 2) :
    (do
      let sign_bit : Nat := Rt.wrapU 8 (bits >>> ss)
      let biased_exp : Int := IntTy.i16.cast (((bits >>> es) &&& em : Nat) : Int)
      Fpdec.assert (decide (biased_exp ≠ (ne : Int)))
      let fraction : Nat := bits &&& fm
      let t4 ← (if decide (biased_exp = 0) = true then pure (0, 0, 0) else do
          let t1 ← IntTy.i16.plain prof (biased_exp - (bias : Int))
          let t2 ← IntTy.i16.plain prof (t1 - (fs : Int))
          let t3 ← IntTy.i8.plain prof (1 - IntTy.i8.cast ((Rt.wrapU 8 (sign_bit <<< 1) : Nat) : Int))
          pure (fraction ||| ib, t2, t3) : Outcome (Nat × Int × Int))
      let (significand, exponent, sign) := t4
      pure (significand, exponent, sign)) = floatDecode f bits := by
  have hx : bits >>> es &&& em ≤ em := Nat.and_le_right
  have hs' : bits >>> ss < 256 := Nat.lt_trans hs (by decide)
  have e1 : IntTy.i16.cast ((bits >>> es &&& em : Nat) : Int) = ((bits >>> es &&& em : Nat) : Int) :=
    i16_cast_id (Int.le_trans (by decide) (Int.natCast_nonneg _))
      (Int.le_of_lt_add_one (Int.ofNat_lt.mpr (Nat.lt_of_le_of_lt hx hem)))
  unfold floatDecode
  -- the cast goes before the `match` on the table is reduced: reduced with the cast inside, the term costs eight times as
  -- much to check
  rw [hc, decode_match, e1, wrapU_id 8 _ hs', Nat.mod_eq_of_lt hs']
  simp only []
  generalize bits >>> es &&& em = be at hx
  generalize bits >>> ss = sb at hs
  obtain ⟨c0, c1, d0, d1⟩ : (-32768 : Int) ≤ be - bias ∧ (be : Int) - bias ≤ 32767 ∧
      (-32768 : Int) ≤ be - bias - fs ∧ (be : Int) - bias - fs ≤ 32767 := by omega
  clear hx hem hbias
  obtain ⟨w, w', s0, s1⟩ : 2 * sb < 2 ^ 8 ∧ ((2 * sb : Nat) : Int) ≤ 127 ∧ (-128 : Int) ≤ 1 - ((2 * sb : Nat) : Int) ∧
      1 - ((2 * sb : Nat) : Int) ≤ 127 := by omega
  rw [show sb <<< 1 = 2 * sb by rw [Nat.shiftLeft_eq, Nat.pow_one, Nat.mul_comm], wrapU_id 8 _ w,
    Int.emod_eq_of_lt (Int.natCast_nonneg _) (show ((2 * sb : Nat) : Int) < 256 by exact_mod_cast w),
    i8_cast_id (Int.le_trans (by decide) (Int.natCast_nonneg _)) w']
  by_cases hnan : (be : Int) = ne
  · simp only [Fpdec.assert, hnan, ne_eq, not_true_eq_false, decide_false, Bool.false_eq_true, if_false, bind_panic']
  · simp only [Fpdec.assert, hnan, ne_eq, not_false_eq_true, decide_true, if_true, bind_ok']
    by_cases h0 : (be : Int) = 0
    · simp only [h0, decide_true, if_true, pure_eq', bind_ok']
    · simp only [h0, decide_false, Bool.false_eq_true, if_false, pure_eq', bind_ok', Int.natCast_one,
        i16_plain_ok prof c0 c1, i16_plain_ok prof d0 d1, i8_plain_ok prof s0 s1]

theorem f64_decode_eq (prof : Profile) (bits : Nat) (hb : bits < 18446744073709551616) :
    Gen.K.f64_decode prof bits = floatDecode Spec.FloatFmt.f64 bits :=
  decode_eq prof .f64 52 2047 2047 4503599627370495 4503599627370496 1023 52 63 (by decide) (by decide) (by decide) bits
    (by rw [Nat.shiftRight_eq_div_pow]; omega)

theorem f32_decode_eq (prof : Profile) (bits : Nat) (hb : bits < 4294967296) :
    Gen.K.f32_decode prof bits = floatDecode Spec.FloatFmt.f32 bits :=
  decode_eq prof .f32 23 255 255 8388607 8388608 127 23 31 (by decide) (by decide) (by decide) bits
    (by rw [Nat.shiftRight_eq_div_pow]; omega)

/-! `impl TryFrom<f32> for Decimal` and `impl TryFrom<f64> for Decimal`: the model's `tryFromFloat`, its errors mapped onto
`DecimalError`.  With `f64_decode`, `f32_decode`, `approx_rational` and `normalize` this covers every function of the file. -/

/-- the model's error type seen as `fpdec::DecimalError` -/
def floatResult : Except FloatErr Dec → Except Rt.DecimalError Dec
  | .ok d => .ok d
  | .error .infinite => .error .infiniteValue
  | .error .nan => .error .notANumber
  | .error .overflow => .error .internalOverflow

/-- `is_infinite` / `is_nan` of std test the bit pattern without its sign bit (`b % m`, `m = 2 ^ (fb + eb)`) against
"exponent all ones, fraction zero" (`c`); here in terms of the two fields -/
theorem float_class (fb eb : Nat) {m c : Nat} (hm : m = 2 ^ (fb + eb)) (hc : c = (2 ^ eb - 1) * 2 ^ fb) (b : Nat) :
    ((b % m == c) = true ↔ b / 2 ^ fb % 2 ^ eb = 2 ^ eb - 1 ∧ b % 2 ^ fb = 0) ∧
    (decide (b % m > c) = true ↔ b / 2 ^ fb % 2 ^ eb = 2 ^ eb - 1 ∧ ¬ b % 2 ^ fb = 0) := by
  have hq : b / 2 ^ fb % 2 ^ eb < 2 ^ eb := Nat.mod_lt _ (Nat.two_pow_pos _)
  have hr : b % 2 ^ fb < 2 ^ fb := Nat.mod_lt _ (Nat.two_pow_pos _)
  rw [beq_iff_eq, decide_eq_true_eq, hm, hc, Nat.pow_add, Nat.mod_mul, Nat.mul_comm (2 ^ eb - 1)]
  generalize b / 2 ^ fb % 2 ^ eb = q at hq ⊢
  generalize b % 2 ^ fb = r at hr ⊢
  generalize 2 ^ fb = P at hr ⊢
  rcases Nat.lt_or_ge q (2 ^ eb - 1) with h | h
  · have := Nat.mul_le_mul_left P (Nat.succ_le_of_lt h)
    rw [Nat.mul_succ] at this
    omega
  · obtain rfl : q = 2 ^ eb - 1 := by omega
    omega

/-- `try_from` of src/from_float.rs as the translator prints it for `f64`, with what differs between the two impls as parameters:
    std's classification, the decode function, and the test `exponent >= 128` (`f32`, whose exponent never gets there, has no such
    test: `fun _ => false`).  Both translations are instances of it by `rfl`. -/
def kTryFrom (isInf isNan : Nat → Bool) (decode : Profile → Nat → Outcome (Nat × Int × Int)) (ovf : Int → Bool)
    (prof : Profile) (f : Nat) : Outcome (Except Rt.DecimalError Model.Dec) := do
  if (isInf (f)) = true then
    pure ((Except.error Rt.DecimalError.infiniteValue))
  else
    if (isNan (f)) = true then
      pure ((Except.error Rt.DecimalError.notANumber))
    else
      let t1 ← decode prof (f)
      let (significand, exponent, sign) := t1
      if decide (exponent < (-126)) = true then
        pure ((Except.ok Model.Dec.ZERO))
      else
        if decide (exponent < 0) = true then
          let t2 ← plainI128 prof (sign * (((significand) : Nat) : Int))
          let numer : Int := t2
          let t3 ← IntTy.i16.plain prof (-(exponent))
          let t4 ← Rt.shlI IntTy.i128 prof (1) (((IntTy.usize.cast ((t3))).toNat))
          let denom : Int := t4
          let t5 ← Gen.K.approx_rational prof (numer) (denom)
          let (coeff, n_frac_digits) := t5
          pure ((Except.ok (⟨coeff, n_frac_digits⟩ : Model.Dec)))
        else
          if ovf exponent = true then
            pure ((Except.error Rt.DecimalError.internalOverflow))
          else
            let t6 ← plainI128 prof (sign * (((significand) : Nat) : Int))
            let numer : Int := t6
            let t7 ← Rt.shlI IntTy.i128 prof (1) ((IntTy.usize.cast (exponent)).toNat)
            let shift : Int := t7
            match (checkedI128 (numer * shift)) with
            | some coeff =>
                pure ((Except.ok (⟨coeff, 0⟩ : Model.Dec)))
            | none =>
                pure ((Except.error Rt.DecimalError.internalOverflow))

theorem kTryFrom_eq {f : Spec.FloatFmt} (hf : f = .f64 ∨ f = .f32) {isInf isNan : Nat → Bool}
    {decode : Profile → Nat → Outcome (Nat × Int × Int)} {ovf : Int → Bool} (prof : Profile) (bits : Nat) (hb : bits < 2 ^ f.bits)
    (hi : isInf bits = true ↔ bits / 2 ^ f.fracBits % 2 ^ f.expBits = 2 ^ f.expBits - 1 ∧ bits % 2 ^ f.fracBits = 0)
    (hn : isNan bits = true ↔ bits / 2 ^ f.fracBits % 2 ^ f.expBits = 2 ^ f.expBits - 1 ∧ ¬ bits % 2 ^ f.fracBits = 0)
    (hd : decode prof bits = floatDecode f bits) (ho : ∀ e : Int, ovf e = true ↔ f.expBits = 11 ∧ e ≥ 128) :
    kTryFrom isInf isNan decode ovf prof bits = floatResult <$> tryFromFloat prof f bits := by
  rw [tryFromFloat_eq]
  unfold kTryFrom
  simp only [Nat.and_two_pow_sub_one_eq_mod, Nat.shiftRight_eq_div_pow]
  refine ite_congr_iff (floatResult <$> ·) hi (fun _ => rfl) fun c0 => ?_
  -- not infinite, the model's test for NaN is "exponent all ones" alone
  refine ite_congr_iff (floatResult <$> ·) (hn.trans ⟨And.left, fun hp => ⟨hp, fun hq => c0 ⟨hp, hq⟩⟩⟩) (fun _ => rfl)
    fun hbe => ?_
  obtain ⟨s, e, sg, hdec, he⟩ := floatDecode_finite hf bits hb hbe
  rw [hd, hdec]
  simp only [bind_ok']
  unfold fromFloatTail
  rw [show Gen.FROM_FLT_MIN_EXP = -126 from rfl]
  -- the four ranges of the exponent
  refine ite_congr_iff (floatResult <$> ·) decide_eq_true_iff (fun _ => rfl) fun c1 => ?_
  refine ite_congr_iff (floatResult <$> ·) decide_eq_true_iff (fun c2 => ?_) fun c2 => ?_
  · have p3 : IntTy.i16.plain prof (-e) = .ok (-e) := i16_plain_ok prof (by omega) (by omega)
    have hu : IntTy.usize.cast (-e) = -e := usize_cast_id (by omega) (by omega)
    have hsh : Rt.shlI IntTy.i128 prof 1 (-e).toNat = .ok (IntTy.i128.cast (1 * 2 ^ (-e).toNat)) :=
      shlI_ok .i128 prof 1 (show (-e).toNat < 128 by omega)
    rw [map_bind]
    refine bind_congr _ fun numer => ?_
    simp only [bind_ok', p3, hu, hsh, Int.one_mul, approx_rational_eq]
    cases approxRational prof numer (IntTy.i128.cast (2 ^ (-e).toNat)) <;> rfl
  refine ite_congr_iff (floatResult <$> ·) (ho e) (fun _ => rfl) fun c3 => ?_
  rw [usize_cast_id (by omega) (by omega)]
  unfold Rt.shlI
  rw [map_bind]
  refine bind_congr _ fun numer => ?_
  -- `1 << exponent` checks its shift amount the way the model does
  simp only [Int.one_mul, show IntTy.i128.bits = 128 from rfl]
  by_cases hk : e.toNat ≥ 128
  · rw [if_pos hk, if_pos hk]
    cases prof.oc
    · simp only [Bool.false_eq_true, if_false, pure_eq', bind_ok']
      cases checkedI128 (numer * IntTy.i128.cast (2 ^ (e.toNat % 128))) <;> rfl
    · rfl
  · rw [if_neg hk, if_neg hk, Nat.mod_eq_of_lt (by omega)]
    simp only [pure_eq', bind_ok']
    cases checkedI128 (numer * IntTy.i128.cast (2 ^ e.toNat)) <;> rfl

theorem try_from_f64_eq (prof : Profile) (bits : Nat) (hb : bits < 18446744073709551616) :
    Gen.K.try_from_f64 prof bits = floatResult <$> tryFromFloat prof Spec.FloatFmt.f64 bits :=
  kTryFrom_eq (Or.inl rfl) (ovf := fun e => decide (e ≥ IntTy.i16.cast ((128 : Nat) : Int))) prof bits hb
    (float_class 52 11 rfl rfl bits).1 (float_class 52 11 rfl rfl bits).2 (f64_decode_eq prof bits hb)
    fun e => by rw [decide_eq_true_eq, i16_cast_id (by decide) (by decide)]; exact (and_iff_right rfl).symm

/-- no test for `exponent ≥ 128` here: `1 << exponent` itself is checked as in the model -/
theorem try_from_f32_eq (prof : Profile) (bits : Nat) (hb : bits < 4294967296) :
    Gen.K.try_from_f32 prof bits = floatResult <$> tryFromFloat prof Spec.FloatFmt.f32 bits :=
  kTryFrom_eq (Or.inr rfl) (ovf := fun _ => false) prof bits hb
    (float_class 23 8 rfl rfl bits).1 (float_class 23 8 rfl rfl bits).2 (f32_decode_eq prof bits hb)
    fun _ => ⟨fun h => Bool.noConfusion h, fun h => absurd h.1 (by decide)⟩
end Fpdec.Kernels
