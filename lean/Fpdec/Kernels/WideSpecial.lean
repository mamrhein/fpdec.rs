import Fpdec.Kernels.WideDiv
import Fpdec.Lemmas.WideCorrLoop
import Fpdec.Lemmas.WideMsb
import Fpdec.Lemmas.IntTy

/-! Tie: the generated translation of `u256_idiv_u128_special` (Knuth's algorithm D, 4 by 2 digits; its two quotient-digit
correction loops with `break`, translated to fuel-bounded recursion) equals the hand-written model (`corrLoop`, structural in the
quotient digit).  The fuel constant (2^128 + 1) exceeds every possible quotient digit estimate. -/

namespace Fpdec.Kernels
open Fpdec Fpdec.Model

/-- the loop condition as generated (lazy `||`) is the model's `corrCond` -/
theorem corr_cond_eq (prof : Profile) (yn0 xn q rhat : Nat) :
    ((if decide (q ≥ 18446744073709551616) = true then pure true else (do
        let t15 ← plainU128 prof ((q : Int) * yn0)
        let t16 ← plainU128 prof ((rhat : Int) * 18446744073709551616)
        let t17 ← plainU128 prof ((t16 : Int) + xn)
        pure (decide (t15 > t17))) : Outcome Bool)) = corrCond prof yn0 xn q rhat := by
  unfold corrCond U64_MOD
  by_cases h : q ≥ 18446744073709551616
  · simp only [h, decide_true, if_true]; rfl
  · simp only [h, decide_false, Bool.false_eq_true, if_false]
    rfl

/-- the generated loop (both loops have the same text up to names) equals `corrLoop` whenever the fuel exceeds the digit -/
theorem corr_loop1_eq (prof : Profile) (yn1 yn0 xn : Nat) : ∀ (F q rhat : Nat), q < F → q ≤ 340282366920938463463374607431768211456 →
    Gen.K.u256_idiv_u128_special_k_loop1 prof yn1 yn0 xn F q rhat = corrLoop prof yn1 yn0 xn q rhat
  | 0, q, rhat, h, _ => absurd h (Nat.not_lt_zero _)
  | F + 1, q, rhat, h, hq => by
    unfold Gen.K.u256_idiv_u128_special_k_loop1
    rw [corr_cond_eq]
    cases q with
    | zero =>
      rw [Wide.corrLoop_zero prof yn1 yn0 xn rhat 0 rfl]
      exact bind_congr_post (Wide.corrCond_zero prof yn0 xn rhat) fun b hb => by subst hb; rfl
    | succ q' =>
      rw [Wide.corrLoop_succ prof yn1 yn0 xn (q' + 1) q' rhat rfl]
      refine bind_congr _ fun c => ?_
      cases c with
      | false => rw [if_neg Bool.false_ne_true, if_neg Bool.false_ne_true]; rfl
      | true =>
        have hpp : plainU128 prof (((q' + 1 : Nat) : Int) - 1) = .ok q' := plainU_ok 128 prof (by omega) (by omega)
        rw [if_pos rfl, if_pos rfl, hpp, bind_ok']
        refine bind_congr _ fun rhat' => ?_
        exact ite_congr_iff id decide_eq_true_iff (fun _ => rfl) fun _ =>
          corr_loop1_eq prof yn1 yn0 xn F q' rhat' (by omega) (by omega)

/-- the fuel `2^128 + 1` of the generated text exceeds every first estimate `t / yn1` of a digit -/
theorem corr_loop1_fuel (prof : Profile) (yn1 yn0 xn : Nat) {t : Nat} (ht : t < U128_MOD) (rhat : Nat) :
    Gen.K.u256_idiv_u128_special_k_loop1 prof yn1 yn0 xn 340282366920938463463374607431768211457 (t / yn1) rhat =
      corrLoop prof yn1 yn0 xn (t / yn1) rhat :=
  have h := Nat.le_trans (Nat.div_le_self t yn1) (Nat.le_of_lt ht)
  corr_loop1_eq prof yn1 yn0 xn _ _ _ (Nat.lt_succ_of_le h) h

theorem corr_loop2_eq (prof : Profile) (yn1 yn0 xn : Nat) : ∀ (F q rhat : Nat),
    Gen.K.u256_idiv_u128_special_k_loop2 prof yn1 yn0 xn F q rhat = Gen.K.u256_idiv_u128_special_k_loop1 prof yn1 yn0 xn F q rhat
  | 0, _, _ => rfl
  | F + 1, q, rhat => by
    unfold Gen.K.u256_idiv_u128_special_k_loop2 Gen.K.u256_idiv_u128_special_k_loop1
    simp only [corr_loop2_eq prof yn1 yn0 xn F]

theorem shl128_small (prof : Profile) (x n : Nat) (h : n < 128) : Rt.shl 128 prof x n = .ok (wrapU128 (x <<< n)) :=
  shl_ok 128 prof x h

/-- the wrapping multiply-subtract of the Knuth step, as generated and as in the model -/
theorem knuth_sub_eq (a b c : Nat) :
    Rt.wrapU 128 (Rt.wrapU 128 (Rt.wrapU 128 a + b) + 2 ^ 128 - Rt.wrapU 128 (Rt.wrapU 128 c)) =
      wrapU128 (wrapU128 (wrapU128 a + b) + U128_MOD - wrapU128 c) := by
  unfold Rt.wrapU wrapU128
  rw [Nat.mod_mod]; rfl

theorem u256_idiv_u128_special_eq (prof : Profile) (xh xl y : Nat) (hy0 : 0 < y)
    (hy : y < U128_MOD) (hxl : xl < U128_MOD) :
    Gen.K.u256_idiv_u128_special_k prof xh xl y = u256IdivU128Special prof xh xl y := by
  unfold Gen.K.u256_idiv_u128_special_k u256IdivU128Special
  refine bind_congr _ (fun _ => ?_)
  have hm := Wide.log2_lt_128 hy0 hy
  rw [u128_msb_eq prof y hy, Wide.u128Msb_eq_log2 prof y hy0 hy, bind_ok', bind_ok',
    plainU8_natSub prof 127 _ 127 rfl (by decide) (by omega), bind_ok', bind_ok']
  dsimp only
  -- the shift amount is below 128: `<<`, `>>` as generated do not panic
  have hn128 : 127 - y.log2 < 128 := by omega
  generalize 127 - y.log2 = n at *
  have hsh : ((if decide (n = 0) = true then (do pure 0) else (do
        let t6 ← plainU8 prof ((128 : Int) - (n : Int))
        let t7 ← Rt.shr 128 prof xl t6
        pure t7) : Outcome Nat)) = .ok (if n = 0 then 0 else xl >>> (128 - n)) := by
    by_cases h0 : n = 0
    · simp [h0]
    · simp only [h0, decide_false, Bool.false_eq_true, if_false, plainU8_natSub prof 128 n 128 rfl (by decide) (by omega), bind_ok',
        shr_ok 128 prof xl (show 128 - n < 128 by omega), pure_eq']
  rw [shl128_small prof y n hn128, bind_ok', u128_hi_eq, bind_ok', u128_lo_eq, bind_ok', hsh, bind_ok',
    shl128_small prof xh n hn128, bind_ok', shl128_small prof xl n hn128, bind_ok', u128_hi_eq, bind_ok',
    u128_lo_eq, bind_ok']
  generalize wrapU128 (y <<< n) = yn
  generalize hsv : (if n = 0 then 0 else xl >>> (128 - n)) = sh
  have hshlt : sh < U128_MOD := by
    rw [← hsv]; split
    · decide
    · exact Nat.lt_of_le_of_lt (Nat.shiftRight_le _ _) hxl
  generalize hx32 : wrapU128 (xh <<< n) ||| sh = xn32
  have hx32lt : xn32 < U128_MOD := by
    rw [← hx32]; exact Nat.or_lt_two_pow (n := 128) (Wide.wrapU128_lt _) hshlt
  generalize wrapU128 (xl <<< n) = xn10
  by_cases hyn1 : u128Hi yn = 0
  · rw [if_pos hyn1]
    unfold Rt.divU
    rw [if_pos hyn1]
    rfl
  · rw [if_neg hyn1, divU_eq _ _ hyn1, bind_ok', remU_eq _ _ hyn1, bind_ok', corr_loop1_fuel prof _ _ _ hx32lt]
    refine bind_congr _ (fun qr1 => ?_)
    rw [knuth_sub_eq, divU_eq _ _ hyn1, bind_ok', remU_eq _ _ hyn1, bind_ok', corr_loop2_eq,
      corr_loop1_fuel prof _ _ _ (Wide.wrapU128_lt _)]
    refine bind_congr _ (fun qr0 => ?_)
    refine bind_congr _ (fun xl1 => bind_congr _ (fun xl2 => ?_))
    rw [knuth_sub_eq, shr_ok 128 prof _ hn128, bind_ok']
    rfl

end Fpdec.Kernels
