import Fpdec.Gen.KRound
import Fpdec.Gen.KDivRounded
import Fpdec.Gen.KWide
import Fpdec.Model.Core
import Fpdec.Kernels.Pow
import Fpdec.Lemmas.Rounding

/-!
Ties of the integer division helpers of fpdec-core: `i128_div_mod_floor`, `round_quot` and the three rounded divisions
(fpdec-core/src/lib.rs, rounding.rs), and the 128×128 bit multiplication.
-/

namespace Fpdec.Kernels
open Fpdec Fpdec.Model

/-! `round_quot`: the model leaves out the effect of the plain `quot + 1` inside the `Round05Up` condition; the tie shows that it
cannot fire for an i128 quotient. -/

@[tie] theorem i128_div_mod_floor_eq (prof : Profile) (x y : Int) :
    Gen.K.i128_div_mod_floor prof x y = i128DivModFloor prof x y := by
  unfold Gen.K.i128_div_mod_floor i128DivModFloor
  simp only [tie]

theorem round_quot_some (prof : Profile) (tm : Mode) (quot : Int) (rem divisor : Nat) (md : Mode)
    (hq : fitsI128 quot = true) :
    Gen.K.round_quot prof tm quot rem divisor (some md) = .ok (roundQuot tm quot rem divisor (some md)) := by
  unfold Gen.K.round_quot roundQuot
  cases md <;> simp only [tie, ite_ok]
  case r05up =>
    -- the inner `quot + 1` is evaluated only for `quot < 0`, where it fits
    have f1 : quot < 0 → plainI128 prof (quot + 1) = .ok (quot + 1) := fun h =>
      plainI128_ok prof (by rw [fitsI128_iff] at *; unfold I128_MIN I128_MAX at *; omega)
    simp +contextual only [f1, tie, ite_ok, Bool.if_true_left, Bool.if_false_right]
  -- the half modes: `Rt.wrapU 128` is `wrapU128`
  all_goals rfl

theorem round_quot_eq (prof : Profile) (tm : Mode) (quot : Int) (rem divisor : Nat) (mode : Option Mode)
    (hq : fitsI128 quot = true) :
    Gen.K.round_quot prof tm quot rem divisor mode = .ok (roundQuot tm quot rem divisor mode) := by
  cases mode with
  | some md => exact round_quot_some prof tm quot rem divisor md hq
  | none => exact round_quot_some prof tm quot rem divisor tm hq

/-! The three rounded divisions: the model calls the pure `roundQuot`, the generated code the translated `round_quot`, which
`round_quot_eq` ties for an i128 quotient.  That the quotient is one is a postcondition of each of the three floor divisions of
the model (`divModFloor_fits`, `shifted_quot_fits`, `mul_quot_fits` in Lemmas/Rounding.lean). -/

theorem i128_div_rounded_eq (prof : Profile) (tm : Mode) (a b : Int) (mode : Option Mode) (ha : fitsI128 a = true) :
    Gen.K.i128_div_rounded prof tm a b mode = i128DivRounded prof tm a b mode := by
  unfold Gen.K.i128_div_rounded i128DivRounded
  rw [i128_div_mod_floor_eq]
  refine bind_congr_post (divModFloor_fits prof a b ha) fun ⟨q, r⟩ hq => ?_
  simp only [round_quot_eq prof tm q _ _ mode hq, tie]
  cases roundQuot tm q r.natAbs b.natAbs mode <;> rfl

theorem i128_shifted_div_rounded_eq (prof : Profile) (tm : Mode) (a : Int) (p : Nat) (b : Int) (mode : Option Mode) :
    Gen.K.i128_shifted_div_rounded prof tm a p b mode = i128ShiftedDivRounded prof tm a p b mode := by
  unfold Gen.K.i128_shifted_div_rounded i128ShiftedDivRounded
  refine bind_congr_post (shifted_quot_fits prof a p b) fun o ho => ?_
  rcases o with _ | ⟨q, r⟩
  · rfl
  · simp only [round_quot_eq prof tm q _ _ mode (ho q r rfl), tie]

theorem i128_mul_div_ten_pow_rounded_eq (prof : Profile) (tm : Mode) (x y : Int) (p : Nat) (mode : Option Mode) :
    Gen.K.i128_mul_div_ten_pow_rounded prof tm x y p mode = i128MulDivTenPowRounded prof tm x y p mode := by
  unfold Gen.K.i128_mul_div_ten_pow_rounded i128MulDivTenPowRounded
  rw [ten_pow_eq]
  refine bind_congr _ fun d => bind_congr_post (mul_quot_fits prof x y d) fun o ho => ?_
  rcases o with _ | ⟨q, r⟩
  · rfl
  · simp only [round_quot_eq prof tm q _ _ mode (ho q r rfl), tie]

theorem wrapU_128 (n : Nat) : Rt.wrapU 128 n = wrapU128 n := rfl

@[tie] theorem u128_hi_eq (prof : Profile) (u : Nat) : Gen.K.u128_hi prof u = .ok (u128Hi u) := rfl
@[tie] theorem u128_lo_eq (prof : Profile) (u : Nat) : Gen.K.u128_lo prof u = .ok (u128Lo u) := rfl

theorem u128_mul_u128_eq (prof : Profile) (x y : Nat) :
    Gen.K.u128_mul_u128 prof x y = u128MulU128 prof x y := by
  unfold Gen.K.u128_mul_u128 u128MulU128
  simp only [wrapU_128, tie]

end Fpdec.Kernels
