import Fpdec.Gen.KPow
import Fpdec.Model.Core
import Fpdec.Kernels.Basic
import Fpdec.Lemmas.Basic

/-! Tie: generated translations of the power-of-ten helpers and `checked_adjust_coeffs` equal the hand-written model. -/

namespace Fpdec.Kernels
open Fpdec Fpdec.Model

@[tie] theorem ten_pow_eq (prof : Profile) (n : Nat) : Gen.K.ten_pow prof n = tenPow n := by
  unfold Gen.K.ten_pow tenPow Rt.index
  cases Gen.POWERS_OF_10[n]? <;> rfl

@[tie] theorem checked_ten_pow_eq (prof : Profile) (n : Nat) : Gen.K.checked_ten_pow prof n = .ok (checkedTenPow n) := by
  unfold Gen.K.checked_ten_pow checkedTenPow Gen.CHECKED_TEN_POW_LIMIT Rt.index
  by_cases h : n > 38
  · simp only [h, tie]
  · -- up to the limit the table lookup cannot fail
    simp only [h, tie, pow10_table n (by omega)]

@[tie] theorem mul_pow_ten_eq (prof : Profile) (val : Int) (n : Nat) : Gen.K.mul_pow_ten prof val n = mulPowTen val n := by
  unfold Gen.K.mul_pow_ten mulPowTen
  rw [ten_pow_eq]
  refine bind_congr _ fun t => ?_
  cases checkedI128 (val * t) <;> rfl

@[tie] theorem checked_mul_pow_ten_eq (prof : Profile) (val : Int) (n : Nat) :
    Gen.K.checked_mul_pow_ten prof val n = .ok (checkedMulPowTen val n) := by
  unfold Gen.K.checked_mul_pow_ten checkedMulPowTen
  rw [checked_ten_pow_eq]
  cases checkedTenPow n <;> rfl

theorem checked_adjust_coeffs_eq (prof : Profile) (x : Int) (p : Nat) (y : Int) (q : Nat) (hp : p < 256) (hq : q < 256) :
    Gen.K.checked_adjust_coeffs prof x p y q = .ok (checkedAdjustCoeffs x p y q) := by
  unfold Gen.K.checked_adjust_coeffs checkedAdjustCoeffs
  cases hc : compare p q <;> simp only [hc, plainU8_sub_gt prof hp, plainU8_sub_lt prof hq, tie]

end Fpdec.Kernels
