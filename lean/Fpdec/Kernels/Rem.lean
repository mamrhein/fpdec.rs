import Fpdec.Gen.KRem
import Fpdec.Gen.KDecRem
import Fpdec.Model.Decimal
import Fpdec.Kernels.Pow

/-!
Ties of src/binops/rem.rs and checked_rem.rs: `fn rem` and the `Rem` / `CheckedRem` impls.
-/

namespace Fpdec.Kernels
open Fpdec Fpdec.Model

/-! `fn rem`: the digit loop with its early `return Err(..)` is translated as fuel-bounded recursion; in the model's `remCore`,
`none` stands for `Err(InternalOverflow)`. -/

/-- the model's `Option Dec` seen as the Rust `Result<(i128, u8), DecimalError>` -/
def remResult : Option Dec → Except Rt.DecimalError (Int × Nat)
  | some d => .ok (d.coeff, d.nfrac)
  | none => .error .internalOverflow

def remLoopResult : Option Int → Nat → Sum (Except Rt.DecimalError (Int × Nat)) (Int × Nat) → Prop
  | some r, _, .inr (r', _) => r' = r
  | none, _, .inl e => e = .error .internalOverflow
  | _, _, _ => False

/-- stated with the code after the loop: the early `return Err(..)` leaves the generated loop as `Sum.inl`, the model's as `none` -/
theorem rem_loop_eq (prof : Profile) (b : Int) (q : Nat) : ∀ (F shift : Nat) (rem : Int), shift < F → shift < 256 →
    (do let t ← Gen.K.rem_loop1 prof b F rem shift
        match t with
        | Sum.inl r => pure r
        | Sum.inr (rem, _) => pure (Except.ok (rem, q)) : Outcome (Except Rt.DecimalError (Int × Nat))) =
    (do match ← remLoop b shift rem with
        | some r => pure (remResult (some ⟨r, q⟩))
        | none => pure (remResult none))
  | 0, shift, rem, h, _ => absurd h (Nat.not_lt_zero _)
  | F + 1, shift, rem, h, hs => by
    unfold Gen.K.rem_loop1
    cases shift with
    | zero =>
      have hb : (decide (rem ≠ 0) && decide (0 > 0)) = false := by simp
      simp only [hb, Bool.false_eq_true, if_false, pure_eq', bind_ok']
      unfold remLoop; rfl
    | succ sh =>
      unfold remLoop
      by_cases hr : rem = 0
      · simp only [pure_eq', bind_ok', hr, if_true]
        rfl
      · have hb : (decide (rem ≠ 0) && decide (sh + 1 > 0)) = true := by simp [hr]
        simp only [hb, if_true, hr, if_false]
        cases hm : checkedI128 (rem * 10) with
        | none => rfl
        | some s =>
          simp only []
          have hp : plainU8 prof (((sh + 1 : Nat) : Int) - 1) = .ok sh := plainU8_natCast prof (by omega) (by omega)
          cases hrem : remI128 s b with
          | panic k => rfl
          | ok r =>
            simp only [bind_ok', hp]
            exact rem_loop_eq prof b q F sh r (by omega) (by omega)

theorem rem_eq (prof : Profile) (a : Int) (p : Nat) (b : Int) (q : Nat) (hp : p < 256) (hq : q < 256) :
    Gen.K.rem prof a p b q = remResult <$> remCore a p b q := by
  unfold Gen.K.rem remCore
  cases hc : compare p q <;> simp only [hc, plainU8_sub_gt prof hp, plainU8_sub_lt prof hq, tie]
  · cases checkedMulPowTen a (q - p) with
    | some sa => simp only []; cases remI128 sa b <;> rfl
    | none =>
      simp only [map_bind]
      refine bind_congr _ fun r => ?_
      refine (rem_loop_eq prof b q 256 (q - p) r (by omega) (by omega)).trans ?_
      rcases remLoop b (q - p) r with (_ | _) | _ <;> rfl
  · cases wrappingRemI128 a b <;> rfl
  · cases checkedMulPowTen b (p - q) with
    | some sb => simp only []; cases remI128 a sb <;> rfl
    | none => rfl

/-! The `Rem` / `CheckedRem` impls, Decimal-by-Decimal and with an integer operand (macro bodies of rem.rs / checked_rem.rs
instantiated with `i64`).  The model has one `Option`-returning core for each operand shape (`remDecDec`, `remDecInt`, `remIntDec`)
behind the operator / checked wrappers. -/

/-- how the operator forms end: the `Result` of `fn rem`, with `Err` panicking -/
theorem rem_tail_op (r : Outcome (Option Dec)) :
    (do let t ← remResult <$> r
        match t with
        | .ok (coeff, n_frac_digits) => pure (⟨coeff, n_frac_digits⟩ : Dec)
        | .error _ => Outcome.panic .overflow) = panicOnNone r := by
  rcases r with (_ | _) | _ <;> rfl

/-- how the checked forms end: `Err` becomes `None` -/
theorem rem_tail_checked (r : Outcome (Option Dec)) :
    (do let t ← remResult <$> r
        match t with
        | .ok (coeff, n_frac_digits) => pure (some (⟨coeff, n_frac_digits⟩ : Dec))
        | .error _ => pure none) = r := by
  rcases r with (_ | _) | _ <;> rfl

theorem decimal_rem_eq (prof : Profile) (x y : Dec) (hp : x.nfrac < 256) (hq : y.nfrac < 256) :
    Gen.K.decimal_rem prof x y = opOfChecked (eqZero y) (remDecDec x y) := by
  unfold Gen.K.decimal_rem remDecDec
  simp only [opOfChecked_eq, rem_eq prof _ _ _ _ hp hq, tie]
  exact else_congr (else_congr (bind_congr _ fun _ => else_congr (rem_tail_op _)))

theorem decimal_checked_rem_eq (prof : Profile) (x y : Dec) (hp : x.nfrac < 256) (hq : y.nfrac < 256) :
    Gen.K.decimal_checked_rem prof x y = checkedOfChecked (eqZero y) (remDecDec x y) := by
  unfold Gen.K.decimal_checked_rem remDecDec
  simp only [checkedOfChecked_eq, rem_eq prof _ _ _ _ hp hq, tie]
  exact else_congr (else_congr (bind_congr _ fun _ => else_congr (rem_tail_checked _)))

theorem decimal_rem_int_eq (prof : Profile) (x : Dec) (i : Int) (hp : x.nfrac < 256) :
    Gen.K.decimal_rem_int prof x i = opOfChecked (decide (i = 0)) (remDecInt x i) := by
  unfold Gen.K.decimal_rem_int remDecInt
  simp only [opOfChecked_eq, rem_eq prof _ _ _ _ hp (by decide : 0 < 256), tie]
  exact else_congr (else_congr (else_congr (rem_tail_op _)))

theorem decimal_checked_rem_int_eq (prof : Profile) (x : Dec) (i : Int) (hp : x.nfrac < 256) :
    Gen.K.decimal_checked_rem_int prof x i = checkedOfChecked (decide (i = 0)) (remDecInt x i) := by
  unfold Gen.K.decimal_checked_rem_int remDecInt
  simp only [checkedOfChecked_eq, rem_eq prof _ _ _ _ hp (by decide : 0 < 256), tie]
  exact else_congr (else_congr (else_congr (rem_tail_checked _)))

/- the translated integer-by-Decimal forms test `self == 0 || rhs.eq_one()` in one (short-circuit) condition -/

theorem int_rem_decimal_eq (prof : Profile) (i : Int) (y : Dec) (hq : y.nfrac < 256) :
    Gen.K.int_rem_decimal prof i y = opOfChecked (eqZero y) (remIntDec i y) := by
  unfold Gen.K.int_rem_decimal remIntDec
  simp only [opOfChecked_eq, rem_eq prof _ _ _ _ (by decide : 0 < 256) hq, tie]
  refine else_congr ?_
  split
  · simp only [tie]
  · exact bind_congr _ fun _ => else_congr (rem_tail_op _)

theorem int_checked_rem_decimal_eq (prof : Profile) (i : Int) (y : Dec) (hq : y.nfrac < 256) :
    Gen.K.int_checked_rem_decimal prof i y = checkedOfChecked (eqZero y) (remIntDec i y) := by
  unfold Gen.K.int_checked_rem_decimal remIntDec
  simp only [checkedOfChecked_eq, rem_eq prof _ _ _ _ (by decide : 0 < 256) hq, tie]
  refine else_congr ?_
  split
  · simp only [tie]
  · exact bind_congr _ fun _ => else_congr (rem_tail_checked _)

end Fpdec.Kernels
