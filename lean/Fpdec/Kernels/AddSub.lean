import Fpdec.Gen.KAddSub
import Fpdec.Model.Decimal
import Fpdec.Kernels.Pow

/-! Tie: the bodies of `impl Add<Decimal> for Decimal`, `impl Sub…`, `impl CheckedAdd…`, `impl CheckedSub…` — obtained by
instantiating the `macro_rules!` definitions of add_sub.rs / checked_add_sub.rs with the arguments of their invocations — equal
the hand-written model. -/

namespace Fpdec.Kernels
open Fpdec Fpdec.Model

@[tie] theorem coeff_or_panic_eq (prof : Profile) (c : Option Int) : Gen.K.coeff_or_panic prof c = coeffOrPanic c := by
  cases c <;> rfl

theorem add_sub_eq (prof : Profile) (sub : Bool) (x y : Dec) (hp : x.nfrac < 256) (hq : y.nfrac < 256) :
    (if sub then Gen.K.decimal_sub prof x y else Gen.K.decimal_add prof x y) = addSub sub x y := by
  unfold addSub
  cases sub
  · unfold Gen.K.decimal_add
    cases hc : compare x.nfrac y.nfrac <;> simp only [hc, plainU8_sub_gt prof hp, plainU8_sub_lt prof hq, tie]
  · unfold Gen.K.decimal_sub
    cases hc : compare x.nfrac y.nfrac <;> simp only [hc, plainU8_sub_gt prof hp, plainU8_sub_lt prof hq, tie]

theorem checked_add_sub_eq (prof : Profile) (sub : Bool) (x y : Dec) (hp : x.nfrac < 256) (hq : y.nfrac < 256) :
    (if sub then Gen.K.decimal_checked_sub prof x y else Gen.K.decimal_checked_add prof x y) = .ok (checkedAddSub sub x y) := by
  unfold checkedAddSub
  cases sub
  · unfold Gen.K.decimal_checked_add
    cases hc : compare x.nfrac y.nfrac <;> simp only [hc, plainU8_sub_gt prof hp, plainU8_sub_lt prof hq, tie]
    · rcases checkedMulPowTen x.coeff (y.nfrac - x.nfrac) with _ | a
      · rfl
      · simp only [tie]; cases checkedI128 (a + y.coeff) <;> rfl
    · cases checkedI128 (x.coeff + y.coeff) <;> rfl
    · rcases checkedMulPowTen y.coeff (x.nfrac - y.nfrac) with _ | b
      · rfl
      · simp only [tie]; cases checkedI128 (x.coeff + b) <;> rfl
  · unfold Gen.K.decimal_checked_sub
    cases hc : compare x.nfrac y.nfrac <;> simp only [hc, plainU8_sub_gt prof hp, plainU8_sub_lt prof hq, tie]
    · rcases checkedMulPowTen x.coeff (y.nfrac - x.nfrac) with _ | a
      · rfl
      · simp only [tie]; cases checkedI128 (a - y.coeff) <;> rfl
    · cases checkedI128 (x.coeff - y.coeff) <;> rfl
    · rcases checkedMulPowTen y.coeff (x.nfrac - y.nfrac) with _ | b
      · rfl
      · simp only [tie]; cases checkedI128 (x.coeff - b) <;> rfl

/-- `impl Add<$t> for Decimal` / `impl Sub<$t> for Decimal` (macro arm instantiated at `$t = i64`; the body does not depend on the type) -/
theorem add_sub_dec_int_eq (prof : Profile) (sub : Bool) (d : Dec) (i : Int) :
    (if sub then Gen.K.decimal_sub_int prof d i else Gen.K.decimal_add_int prof d i) = addSubInt sub false d i := by
  unfold addSubInt
  cases sub
  · unfold Gen.K.decimal_add_int; simp only [tie]
  · unfold Gen.K.decimal_sub_int; simp only [tie]

/-- `impl Add<Decimal> for $t` / `impl Sub<Decimal> for $t` -/
theorem add_sub_int_dec_eq (prof : Profile) (sub : Bool) (d : Dec) (i : Int) :
    (if sub then Gen.K.int_sub_decimal prof i d else Gen.K.int_add_decimal prof i d) = addSubInt sub true d i := by
  unfold addSubInt
  cases sub
  · unfold Gen.K.int_add_decimal; simp only [tie]
  · unfold Gen.K.int_sub_decimal; simp only [tie]

/-! Integer forms of `checked_add` / `checked_sub` (macro `impl_checked_add_sub_decimal_and_int` instantiated with `i64`): one
body, in which only the operation on the coefficient `f` varies. -/

theorem checked_int_core (prof : Profile) (n : Nat) (i : Int) (f : Int → Int) (g : Int → Dec) :
    (do let t3 ← (if decide (n = 0) = true then (do pure (checkedI128 (f i)))
          else (do
            let t1 ← Gen.K.checked_mul_pow_ten prof i n
            let some t2 := t1 | pure none
            pure (checkedI128 (f t2))) : Outcome (Option Int))
        let some t4 := t3 | pure none
        pure (some (g t4))) =
      .ok (if n = 0 then (do let c ← checkedI128 (f i); pure (g c))
           else (do let s ← checkedMulPowTen i n; let c ← checkedI128 (f s); pure (g c))) := by
  simp only [tie]
  split
  · cases checkedI128 (f i) <;> rfl
  · rcases checkedMulPowTen i n with _ | s
    · rfl
    · simp only [tie]; cases checkedI128 (f s) <;> rfl

theorem decimal_checked_add_int_eq (prof : Profile) (d : Dec) (i : Int) :
    Gen.K.decimal_checked_add_int prof d i = .ok (checkedAddSubInt false false d i) :=
  checked_int_core prof d.nfrac i (fun s => d.coeff + s) (fun c => ⟨c, d.nfrac⟩)

theorem decimal_checked_sub_int_eq (prof : Profile) (d : Dec) (i : Int) :
    Gen.K.decimal_checked_sub_int prof d i = .ok (checkedAddSubInt true false d i) :=
  checked_int_core prof d.nfrac i (fun s => d.coeff - s) (fun c => ⟨c, d.nfrac⟩)

theorem int_checked_add_decimal_eq (prof : Profile) (i : Int) (d : Dec) :
    Gen.K.int_checked_add_decimal prof i d = .ok (checkedAddSubInt false true d i) :=
  checked_int_core prof d.nfrac i (fun s => s + d.coeff) (fun c => ⟨c, d.nfrac⟩)

theorem int_checked_sub_decimal_eq (prof : Profile) (i : Int) (d : Dec) :
    Gen.K.int_checked_sub_decimal prof i d = .ok (checkedAddSubInt true true d i) :=
  checked_int_core prof d.nfrac i (fun s => s - d.coeff) (fun c => ⟨c, d.nfrac⟩)

end Fpdec.Kernels
