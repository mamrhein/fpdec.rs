import Fpdec.Gen.KQuant
import Fpdec.Kernels.MulDiv

/-! Tie: the generic `Quantize::quantize` (src/quantize.rs: `self.div_rounded(quant, 0) * quant`), instantiated for the four operand
shapes (the method call and the `*` are dispatched on the operand types to the translated impls). -/

namespace Fpdec.Kernels
open Fpdec Fpdec.Model

attribute [tie] decimal_mul_eq decimal_mul_int_eq

theorem quantize_dec_dec_eq (prof : Profile) (tm : Mode) (x q : Dec) (hx : fitsI128 x.coeff = true) (hp : x.nfrac ≤ 38) :
    Gen.K.quantize_dec_dec prof tm x q = quantize prof tm x q := by
  unfold Gen.K.quantize_dec_dec quantize
  simp only [decimal_div_rounded_eq prof tm x q 0 hx hp, tie]

theorem quantize_dec_int_eq (prof : Profile) (tm : Mode) (x : Dec) (i : Int) (hx : fitsI128 x.coeff = true) (hp : x.nfrac ≤ 38) :
    Gen.K.quantize_dec_int prof tm x i = quantizeDecInt prof tm x i := by
  unfold Gen.K.quantize_dec_int quantizeDecInt
  simp only [decimal_div_rounded_int_eq prof tm x i 0 hx hp, tie]

theorem quantize_int_dec_eq (prof : Profile) (tm : Mode) (i : Int) (q : Dec) (hi : fitsI128 i = true) :
    Gen.K.quantize_int_dec prof tm i q = quantizeIntDec prof tm i q := by
  unfold Gen.K.quantize_int_dec quantizeIntDec
  simp only [int_div_rounded_decimal_eq prof tm i q 0 hi, tie]

theorem quantize_int_int_eq (prof : Profile) (tm : Mode) (i j : Int) (hi : fitsI128 i = true) :
    Gen.K.quantize_int_int prof tm i j = quantizeIntInt prof tm i j := by
  unfold Gen.K.quantize_int_int quantizeIntInt
  simp only [int_div_rounded_int_eq prof tm i j 0 hi, tie]

end Fpdec.Kernels
