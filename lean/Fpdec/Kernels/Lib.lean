import Fpdec.Gen.KNorm
import Fpdec.Gen.Consts
import Fpdec.Model.Decimal
import Fpdec.Kernels.Pow

/-!
Ties of items of src/lib.rs: `normalize` and the associated constants of `Decimal`.
-/

namespace Fpdec.Kernels
open Fpdec Fpdec.Model

/-! `normalize`: a `while` loop, translated to fuel-bounded recursion; the fuel the translator supplies (256) always suffices because
the loop counts `n_frac_digits: u8` down. -/

theorem normalize_loop_eq (prof : Profile) : ∀ (F : Nat) (c : Int) (n f : Nat), n < F → n ≤ f → n < 256 →
    Gen.K.normalize_loop1 prof F c n = .ok (normalize.go f c n)
  | 0, c, n, f, h, _, _ => absurd h (Nat.not_lt_zero _)
  | F + 1, c, n, f, h, hf, hn => by
    unfold Gen.K.normalize_loop1
    simp only [tie]
    cases f with
    | zero => rw [if_neg (by omega)]; rfl
    | succ f' =>
      unfold normalize.go
      split
      · rw [plainU8_natCast prof (n := n - 1) (by omega) (by omega), bind_ok',
          normalize_loop_eq prof F _ (n - 1) f' (by omega) (by omega) (by omega)]
      · rfl

theorem normalize_eq (prof : Profile) (c : Int) (n : Nat) (hn : n < 256) :
    Gen.K.normalize prof c n = .ok (normalize c n) := by
  unfold Gen.K.normalize normalize
  simp only [normalize_loop_eq prof 256 c n n hn (Nat.le_refl _) hn, tie, ite_ok]

/-! The associated constants of `Decimal` (`ZERO`, `ONE`, `NEG_ONE`, `TWO`, `TEN`, `MAX`, `MIN`, `DELTA`), re-extracted from the source
on every run, are the constants of the hand-written model — the translated kernels refer to `Self::ZERO` / `Self::ONE` through the
model's `Dec.ZERO` / `Dec.ONE`, and `MIN ..= MAX` is the operand domain `Dom` of every property. -/

theorem decimal_consts_tie :
    Gen.DECIMAL_CONSTS =
      [("ZERO", Dec.ZERO.coeff, Dec.ZERO.nfrac), ("ONE", Dec.ONE.coeff, Dec.ONE.nfrac),
       ("NEG_ONE", Dec.NEG_ONE.coeff, Dec.NEG_ONE.nfrac), ("TWO", Dec.TWO.coeff, Dec.TWO.nfrac),
       ("TEN", Dec.TEN.coeff, Dec.TEN.nfrac), ("MAX", Dec.MAX.coeff, Dec.MAX.nfrac), ("MIN", Dec.MIN.coeff, Dec.MIN.nfrac),
       ("DELTA", Dec.DELTA.coeff, Dec.DELTA.nfrac)] := by decide

/-- `Decimal::MIN ..= Decimal::MAX` with at most `MAX_N_FRAC_DIGITS` digits is the domain the property theorems quantify over -/
theorem dom_is_min_max (d : Dec) :
    (Dec.MIN.coeff ≤ d.coeff ∧ d.coeff ≤ Dec.MAX.coeff ∧ d.nfrac ≤ Dec.DELTA.nfrac) ↔
    (I128_MIN < d.coeff ∧ d.coeff ≤ I128_MAX ∧ d.nfrac ≤ 18) := by
  have h : Dec.DELTA.nfrac = 18 := by decide
  simp only [Dec.MIN, Dec.MAX, h]
  omega

end Fpdec.Kernels
