import Fpdec.Gen.KIntConv
import Fpdec.Model.Decimal
import Fpdec.Kernels.Pow

/-! Tie: `impl TryFrom<Decimal> for i128` and the macro-generated `impl TryFrom<Decimal> for $t` (src/into_int.rs; instantiated at
`$t = i64`, the body only depends on the type through the range test), `impl From<$t> for Decimal` and `impl TryFrom<u128> for
Decimal` (src/from_int.rs). -/

namespace Fpdec.Kernels
open Fpdec Fpdec.Model

/-- the model's error type seen as `fpdec::TryFromDecimalError` -/
def intoResult : Except IntoIntErr Int → Except Rt.TryFromDecimalError Int
  | .ok i => .ok i
  | .error .notAnInt => .error .notAnIntValue
  | .error .outOfRange => .error .valueOutOfRange

theorem i128_try_from_decimal_eq (prof : Profile) (d : Dec) :
    Gen.K.i128_try_from_decimal prof d = intoResult <$> intoI128 d := by
  unfold Gen.K.i128_try_from_decimal intoI128
  simp only [tie]
  split
  · rfl
  · simp only [map_bind]
    refine bind_congr _ fun t => bind_congr _ fun r => ?_
    split
    · cases divI128 d.coeff t <;> rfl
    · rfl

theorem i64_try_from_decimal_eq (prof : Profile) (d : Dec) :
    Gen.K.i64_try_from_decimal prof d = intoResult <$> intoInt IntTy.i64 d := by
  unfold Gen.K.i64_try_from_decimal intoInt
  simp only [i128_try_from_decimal_eq, bind_map, map_bind, tie]
  refine bind_congr _ fun r => ?_
  rcases r with (_ | _) | i
  · rfl
  · rfl
  · by_cases hf : IntTy.i64.fits i = true <;> simp only [hf, intoResult, tie]

@[tie] theorem decimal_from_int_eq (prof : Profile) (i : Int) : Gen.K.decimal_from_int prof i = .ok (fromInt i) := rfl

theorem decimal_try_from_u128_eq (prof : Profile) (i : Nat) :
    Gen.K.decimal_try_from_u128 prof i =
      .ok (match tryFromU128 i with | some d => .ok d | none => .error .internalOverflow) := by
  unfold Gen.K.decimal_try_from_u128 tryFromU128
  by_cases h : (i : Int) ≤ I128_MAX <;> simp only [h, tie] <;> rfl

end Fpdec.Kernels
