import Fpdec.Gen.KDecDiv
import Fpdec.Gen.KDecMul
import Fpdec.Gen.KDecOps
import Fpdec.Gen.KIntOps
import Fpdec.Model.Decimal
import Fpdec.Kernels.Round
import Fpdec.Kernels.Lib

/-!
Ties of the multiplication and division impls of `Decimal` (src/binops/mul.rs, checked_mul.rs, mul_rounded.rs, div.rs,
checked_div.rs, div_rounded.rs), Decimal-by-Decimal and with an integer operand.
-/

namespace Fpdec.Kernels
open Fpdec Fpdec.Model

theorem checked_div_rounded_eq (prof : Profile) (tm : Mode) (a : Int) (p : Nat) (b : Int) (q n : Nat)
    (ha : fitsI128 a = true) (hp38 : p ≤ 38) :
    Gen.K.checked_div_rounded prof tm a p b q n = checkedDivRounded prof tm a p b q n := by
  unfold Gen.K.checked_div_rounded checkedDivRounded
  refine bind_congr_post (plainU8_lt prof _) fun shift hs => ?_
  have hp : p < 256 := Nat.lt_of_le_of_lt hp38 (by decide)
  cases hc : compare p shift <;> simp only [hc, plainU8_sub_gt prof hp, plainU8_sub_lt prof hs, tie]
  · cases hm : checkedMulPowTen a (shift - p) with
    | some sh => simp only [i128_div_rounded_eq prof tm sh b none (checkedMulPowTen_fits _ _ _ hm)]
    | none => simp only [i128_shifted_div_rounded_eq]
  · simp only [i128_div_rounded_eq prof tm a b none ha]
  · -- the model looks the power of ten up before the test of the remainder, the code after it: the lookup cannot fail
    refine bind_congr_post (divModFloor_fits prof a b ha) fun ⟨qu, re⟩ hq => ?_
    simp only [tenPow_ok (p - shift) (by omega), tie]
    split
    · simp only [i128_div_rounded_eq prof tm qu _ none hq]
    · refine bind_congr _ fun t15 => bind_congr_post (plainI128_fits prof _) fun t16 h16 => ?_
      simp only [i128_div_rounded_eq prof tm t16 _ none h16]

theorem checked_mul_rounded_eq (prof : Profile) (tm : Mode) (x y : Dec) (n : Nat) (hn : n < 256) :
    Gen.K.checked_mul_rounded prof tm x y n = checkedMulRounded prof tm x y n := by
  unfold Gen.K.checked_mul_rounded checkedMulRounded
  refine bind_congr_post (plainU8_lt prof _) fun maxN hs => ?_
  simp only [tie]
  split
  · cases checkedI128 (x.coeff * y.coeff) <;> rfl
  · simp only [plainU8_sub prof hs (by omega : n ≤ maxN), tie]
    cases hm : checkedI128 (x.coeff * y.coeff) with
    | some c => simp only [i128_div_rounded_eq prof tm c _ none (checkedI128_fits _ _ hm)]
    | none =>
      simp only [i128_mul_div_ten_pow_rounded_eq]
      refine bind_congr _ fun o => ?_
      cases o <;> rfl

/-! The Decimal-by-Decimal operator bodies.  Each runs the same tests in the same order as its model; the two differ in the form of
the last `match` at most. -/

theorem decimal_mul_eq (prof : Profile) (tm : Mode) (x y : Dec) :
    Gen.K.decimal_mul prof tm x y = mul prof tm x y := by
  unfold Gen.K.decimal_mul mul
  simp only [checked_mul_rounded_eq prof tm x y _ (by decide : Gen.MAX_N_FRAC_DIGITS < 256)]
  refine else_congr (bind_congr _ fun _ => else_congr (bind_congr _ fun _ => else_congr (bind_congr _ fun o => ?_)))
  cases o <;> rfl

theorem decimal_checked_mul_eq (prof : Profile) (x y : Dec) :
    Gen.K.decimal_checked_mul prof x y = checkedMul prof x y := by
  unfold Gen.K.decimal_checked_mul checkedMul
  simp only [tie]
  refine else_congr (bind_congr _ fun _ => else_congr (bind_congr _ fun _ => else_congr (bind_congr _ fun n => ?_)))
  cases checkedI128 (x.coeff * y.coeff) <;> rfl

theorem decimal_mul_rounded_eq (prof : Profile) (tm : Mode) (x y : Dec) (n : Nat) (hn : n < 256) :
    Gen.K.decimal_mul_rounded prof tm x y n = mulRounded prof tm x y n := by
  unfold Gen.K.decimal_mul_rounded mulRounded
  simp only [checked_mul_rounded_eq prof tm x y n hn, tie]
  refine else_congr (else_congr (bind_congr _ fun o => ?_))
  cases o <;> rfl

/-- the shared tail of the division forms -/
theorem div_core_eq (prof : Profile) (tm : Mode) (a : Int) (p : Nat) (b : Int) (q : Nat) (ha : fitsI128 a = true) (hp : p ≤ 38) :
    (do let t2 ← Gen.K.checked_div_rounded prof tm a p b q Gen.MAX_N_FRAC_DIGITS
        match t2 with
        | some coeff => do
          let (coeff, n_frac_digits) ← Gen.K.normalize prof coeff Gen.MAX_N_FRAC_DIGITS
          pure (some (⟨coeff, n_frac_digits⟩ : Dec))
        | none => pure none : Outcome (Option Dec)) = divCore prof tm a p b q := by
  unfold divCore
  rw [checked_div_rounded_eq prof tm a p b q _ ha hp]
  refine bind_congr _ fun o => ?_
  cases o with
  | none => rfl
  | some c => simp only [normalize_eq prof c _ (by decide : Gen.MAX_N_FRAC_DIGITS < 256), tie]

theorem decimal_div_eq (prof : Profile) (tm : Mode) (x y : Dec) (hx : fitsI128 x.coeff = true) (hp : x.nfrac ≤ 38) :
    Gen.K.decimal_div prof tm x y = div prof tm x y := by
  unfold Gen.K.decimal_div div
  rw [← div_core_eq prof tm _ _ _ _ hx hp]
  refine else_congr (else_congr (bind_congr _ fun _ => else_congr ?_))
  rw [bind_assoc']
  refine bind_congr _ fun o => ?_
  cases o with
  | none => rfl
  | some c => simp only [bind_assoc', tie]

theorem decimal_checked_div_eq (prof : Profile) (tm : Mode) (x y : Dec) (hx : fitsI128 x.coeff = true) (hp : x.nfrac ≤ 38) :
    Gen.K.decimal_checked_div prof tm x y = checkedDiv prof tm x y := by
  unfold Gen.K.decimal_checked_div checkedDiv
  rw [← div_core_eq prof tm _ _ _ _ hx hp]
  refine else_congr (else_congr (bind_congr _ fun _ => else_congr (bind_congr _ fun o => ?_)))
  cases o <;> rfl

theorem decimal_div_rounded_eq (prof : Profile) (tm : Mode) (x y : Dec) (n : Nat) (hx : fitsI128 x.coeff = true)
    (hp : x.nfrac ≤ 38) :
    Gen.K.decimal_div_rounded prof tm x y n = divRounded prof tm x y n := by
  unfold Gen.K.decimal_div_rounded divRounded
  simp only [checked_div_rounded_eq prof tm _ _ _ _ n hx hp, tie]
  refine else_congr (else_congr (else_congr (bind_congr _ fun o => ?_)))
  cases o <;> rfl

/-! The macro-generated integer forms, in both operand orders (macro bodies instantiated at `$t = i64`; the body does not depend on
the type). -/

theorem decimal_mul_int_eq (prof : Profile) (d : Dec) (i : Int) : Gen.K.decimal_mul_int prof d i = mulInt d i := by
  unfold Gen.K.decimal_mul_int mulInt
  cases checkedI128 (d.coeff * i) <;> rfl

theorem int_mul_decimal_eq (prof : Profile) (i : Int) (d : Dec) : Gen.K.int_mul_decimal prof i d = mulInt d i := by
  unfold Gen.K.int_mul_decimal mulInt
  rw [Int.mul_comm i d.coeff]
  cases checkedI128 (d.coeff * i) <;> rfl

theorem decimal_checked_mul_int_eq (prof : Profile) (d : Dec) (i : Int) :
    Gen.K.decimal_checked_mul_int prof d i = .ok (checkedMulInt d i) := by
  unfold Gen.K.decimal_checked_mul_int checkedMulInt
  cases checkedI128 (d.coeff * i) <;> rfl

theorem int_checked_mul_decimal_eq (prof : Profile) (i : Int) (d : Dec) :
    Gen.K.int_checked_mul_decimal prof i d = .ok (checkedMulInt d i) := by
  unfold Gen.K.int_checked_mul_decimal checkedMulInt
  rw [Int.mul_comm i d.coeff]
  cases checkedI128 (d.coeff * i) <;> rfl

theorem decimal_div_int_eq (prof : Profile) (tm : Mode) (d : Dec) (i : Int) (hd : fitsI128 d.coeff = true) (hp : d.nfrac ≤ 38) :
    Gen.K.decimal_div_int prof tm d i = opOfChecked (i = 0) (divDecInt prof tm d i) := by
  unfold Gen.K.decimal_div_int divDecInt divCore
  simp only [opOfChecked_eq, checked_div_rounded_eq prof tm _ _ _ _ _ hd hp, tie]
  refine else_congr (else_congr (else_congr (bind_congr _ fun o => ?_)))
  cases o with
  | none => rfl
  | some c => simp only [normalize_eq prof c _ (by decide : Gen.MAX_N_FRAC_DIGITS < 256), tie]

theorem decimal_checked_div_int_eq (prof : Profile) (tm : Mode) (d : Dec) (i : Int) (hd : fitsI128 d.coeff = true)
    (hp : d.nfrac ≤ 38) :
    Gen.K.decimal_checked_div_int prof tm d i = checkedOfChecked (i = 0) (divDecInt prof tm d i) := by
  unfold Gen.K.decimal_checked_div_int divDecInt
  rw [← div_core_eq prof tm _ _ _ _ hd hp]
  simp only [checkedOfChecked_eq, tie]
  refine else_congr (else_congr (else_congr (bind_congr _ fun o => ?_)))
  cases o <;> rfl

theorem i64_fits_i128 (i : Int) (h : IntTy.i64.fits i = true) : fitsI128 i = true := by
  obtain ⟨h0, h1⟩ := (IntTy.fits_iff _ _).mp h
  exact (fitsI128_iff _).mpr ⟨Int.le_trans (by decide) h0, Int.le_trans h1 (by decide)⟩

theorem int_div_decimal_eq (prof : Profile) (tm : Mode) (i : Int) (d : Dec) (hi : fitsI128 i = true) :
    Gen.K.int_div_decimal prof tm i d = opOfChecked (eqZero d) (divIntDec prof tm i d) := by
  unfold Gen.K.int_div_decimal divIntDec divCore
  simp only [opOfChecked_eq, checked_div_rounded_eq prof tm _ 0 _ _ _ hi (by decide), tie]
  refine else_congr (else_congr (bind_congr _ fun _ => else_congr (bind_congr _ fun o => ?_)))
  cases o with
  | none => rfl
  | some c => simp only [normalize_eq prof c _ (by decide : Gen.MAX_N_FRAC_DIGITS < 256), tie]

theorem int_checked_div_decimal_eq (prof : Profile) (tm : Mode) (i : Int) (d : Dec) (hi : fitsI128 i = true) :
    Gen.K.int_checked_div_decimal prof tm i d = checkedOfChecked (eqZero d) (divIntDec prof tm i d) := by
  unfold Gen.K.int_checked_div_decimal divIntDec
  rw [← div_core_eq prof tm _ 0 _ _ hi (by decide)]
  simp only [checkedOfChecked_eq, tie]
  refine else_congr (else_congr (bind_congr _ fun _ => else_congr (bind_congr _ fun o => ?_)))
  cases o <;> rfl

theorem decimal_div_rounded_int_eq (prof : Profile) (tm : Mode) (d : Dec) (i : Int) (n : Nat) (hd : fitsI128 d.coeff = true)
    (hp : d.nfrac ≤ 38) :
    Gen.K.decimal_div_rounded_int prof tm d i n = divRoundedDecInt prof tm d i n := by
  unfold Gen.K.decimal_div_rounded_int divRoundedDecInt
  simp only [checked_div_rounded_eq prof tm _ _ _ _ n hd hp, tie]
  refine else_congr (else_congr (else_congr (bind_congr _ fun o => ?_)))
  cases o <;> rfl

theorem int_div_rounded_decimal_eq (prof : Profile) (tm : Mode) (i : Int) (d : Dec) (n : Nat) (hi : fitsI128 i = true) :
    Gen.K.int_div_rounded_decimal prof tm i d n = divRoundedIntDec prof tm i d n := by
  unfold Gen.K.int_div_rounded_decimal divRoundedIntDec
  simp only [checked_div_rounded_eq prof tm _ 0 _ _ n hi (by decide), tie]
  refine else_congr (else_congr (else_congr (bind_congr _ fun o => ?_)))
  cases o <;> rfl

/-- `int.div_rounded(int, n)`: the translated body, like the model, has no `n_frac_digits` guard (open finding D8) -/
theorem int_div_rounded_int_eq (prof : Profile) (tm : Mode) (i j : Int) (n : Nat) (hi : fitsI128 i = true) :
    Gen.K.int_div_rounded_int prof tm i j n = divRoundedIntInt prof tm i j n := by
  unfold Gen.K.int_div_rounded_int divRoundedIntInt
  simp only [checked_div_rounded_eq prof tm _ 0 _ _ n hi (by decide), tie]
  refine else_congr (else_congr (bind_congr _ fun o => ?_))
  cases o <;> rfl

end Fpdec.Kernels
