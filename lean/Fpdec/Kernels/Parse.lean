import Fpdec.Gen.KParse
import Fpdec.Gen.KSwar
import Fpdec.Kernels.FromStr
import Fpdec.Model.Parser
import Fpdec.Lemmas.ParseStr

/-! Tie: the generated translation of the parser (`fpdec-core/src/parser.rs`: the cursor methods of `AsciiDecLit`, the two SWAR
functions, the digit loops `skip_leading_zeroes`, `accum_coeff`, `accum_exp` — `while` / `while let` loops translated to
fuel-bounded recursion — and `str_to_dec`) equals the hand-written model: the loops for every input shorter than `2^64` bytes (their
fuel, and the range of the `usize` length arithmetic), `str_to_dec` for every input shorter than `2^63` bytes (`n_frac_digits as
isize`). -/

namespace Fpdec.Kernels
open Fpdec Fpdec.Model

theorem chunk_contains_8_digits_eq (prof : Profile) (c : Nat) :
    Gen.K.chunk_contains_8_digits prof c = .ok (chunkContains8Digits c) := by
  unfold Gen.K.chunk_contains_8_digits chunkContains8Digits wsub64 wadd64 Rt.wrapU
  simp only [ParseAux.U64M_eq, Outcome.pure_eq, Gen.SWAR_SUB, Gen.SWAR_ADD, Gen.SWAR_HI]
  congr 1

theorem chunk_to_u64_eq (prof : Profile) (c : Nat) :
    Gen.K.chunk_to_u64 prof c = .ok (chunkToU64 c) := by
  unfold Gen.K.chunk_to_u64 chunkToU64 wadd64 wmul64 Rt.wrapU
  simp only [ParseAux.U64M_eq, Outcome.pure_eq, Gen.SWAR_M1, Gen.SWAR_M2, Gen.SWAR_M3, Gen.SWAR_M4]

theorem lit_new_eq (prof : Profile) (s : List Nat) : Gen.K.lit_new prof s = .ok s := rfl
theorem lit_is_empty_eq (prof : Profile) (s : List Nat) : Gen.K.lit_is_empty prof s = .ok s.isEmpty := rfl
theorem lit_len_eq (prof : Profile) (s : List Nat) : Gen.K.lit_len prof s = .ok s.length := rfl
theorem lit_first_eq (prof : Profile) (s : List Nat) : Gen.K.lit_first prof s = .ok s.head? := rfl

theorem lit_skip_n_eq (prof : Profile) (s : List Nat) (n : Nat) (h : n ≤ s.length) :
    Gen.K.lit_skip_n prof s n = .ok (s.drop n) := by
  unfold Gen.K.lit_skip_n debugAssert
  simp [h]

theorem lit_skip_1_cons (prof : Profile) (c : Nat) (s : List Nat) : Gen.K.lit_skip_1 prof (c :: s) = .ok s := by
  unfold Gen.K.lit_skip_1
  rw [lit_skip_n_eq prof (c :: s) 1 (by simp)]
  rfl

theorem lit_first_eq_eq (prof : Profile) (s : List Nat) (b : Nat) :
    Gen.K.lit_first_eq prof s b = .ok (decide (some b = s.head?)) := rfl

theorem skip_zeroes_loop_eq (prof : Profile) : ∀ (s : List Nat) (F : Nat), s.length < F →
    Gen.K.lit_skip_leading_zeroes_loop1 prof F s = .ok (skipLeadingZeroes s)
  | [], F + 1, _ => by
    unfold Gen.K.lit_skip_leading_zeroes_loop1 skipLeadingZeroes
    rw [lit_first_eq_eq]; simp
  | c :: cs, F + 1, h => by
    unfold Gen.K.lit_skip_leading_zeroes_loop1 skipLeadingZeroes
    rw [lit_first_eq_eq]
    by_cases hc : c = 48
    · subst hc
      simp only [List.head?_cons, decide_true, bind_ok', if_true, lit_skip_1_cons]
      exact skip_zeroes_loop_eq prof cs F (by simpa using h)
    · have : decide (some 48 = (c :: cs).head?) = false := by
        simp only [List.head?_cons, Option.some.injEq, decide_eq_false_iff_not]
        exact fun h => hc h.symm
      simp only [this, bind_ok', Bool.false_eq_true, if_false, hc, pure_eq']

theorem lit_skip_leading_zeroes_eq (prof : Profile) (s : List Nat) (h : s.length < 2 ^ 64) :
    Gen.K.lit_skip_leading_zeroes prof s = .ok (skipLeadingZeroes s) := by
  unfold Gen.K.lit_skip_leading_zeroes
  rw [skip_zeroes_loop_eq prof s _ (by simpa using h)]

theorem leBytes_foldr (l : List Nat) : l.foldr (fun b acc => b + 256 * acc) 0 = leBytes l := by
  induction l with
  | nil => rfl
  | cons b bs ih => simp only [List.foldr_cons, leBytes, ih]

theorem lit_read_u64_eq (prof : Profile) (s : List Nat) : Gen.K.lit_read_u64 prof s = .ok (readU64 s) := by
  unfold Gen.K.lit_read_u64 readU64 Rt.readU64LE
  rw [lit_len_eq, leBytes_foldr]
  simp only [bind_ok', pure_eq']
  by_cases h : s.length ≥ 8 <;> simp [h]

/-- one accumulation step, `coeff.saturating_mul(K).saturating_add(d)`; `K` is the literal as it stands in the text -/
theorem sat_mul_add (a k b : Nat) (K : Int) (hK : K = k) :
    Rt.sat 128 (((Rt.sat 128 ((a : Int) * K) : Nat) : Int) + (b : Int)) = satAddU128 (satMulU128 a k) b := by
  rw [hK, ← Int.natCast_mul, sat_natCast, ← Int.natCast_add, sat_natCast, ParseAux.satMulU128_eq, ParseAux.satAddU128_eq]
  rfl

theorem accum_chunks_loop_eq (prof : Profile) : ∀ (F f coeff : Nat) (s : List Nat), s.length < F → s.length ≤ f →
    Gen.K.lit_accum_coeff_loop1 prof F coeff s = .ok (accumChunks f coeff s)
  | 0, _, _, _, h, _ => absurd h (Nat.not_lt_zero _)
  | F + 1, f, coeff, s, hF, hf => by
    unfold Gen.K.lit_accum_coeff_loop1
    rw [lit_read_u64_eq, bind_ok']
    cases hr : readU64 s with
    | none =>
      cases f with
      | zero => rfl
      | succ f' => unfold accumChunks; rw [hr]; rfl
    | some k =>
      have h8 := ParseAux.readU64_some_len hr
      obtain ⟨f', rfl⟩ : ∃ f', f = f' + 1 := ⟨f - 1, by omega⟩
      unfold accumChunks
      rw [hr]
      simp only [chunk_contains_8_digits_eq, bind_ok']
      by_cases hc : chunkContains8Digits k = true
      · simp only [hc, if_true, chunk_to_u64_eq, bind_ok', lit_skip_n_eq prof s 8 h8]
        rw [sat_mul_add coeff 100000000 _ 100000000 rfl]
        exact accum_chunks_loop_eq prof F f' _ (s.drop 8) (by rw [List.length_drop]; omega) (by rw [List.length_drop]; omega)
      · simp only [hc, Bool.false_eq_true, if_false, pure_eq']

theorem digitVal_eq (c : Nat) : Rt.wrapU 8 (c + 2 ^ 8 - Rt.wrapU 8 48) = digitVal c := rfl

theorem accum_digits_loop_eq (prof : Profile) : ∀ (s : List Nat) (F coeff : Nat), s.length < F →
    Gen.K.lit_accum_coeff_loop2 prof F coeff s = .ok (accumDigits coeff s)
  | _, 0, _, h => absurd h (Nat.not_lt_zero _)
  | [], F + 1, coeff, _ => by
    unfold Gen.K.lit_accum_coeff_loop2 accumDigits
    rw [lit_first_eq, bind_ok']; rfl
  | c :: cs, F + 1, coeff, h => by
    unfold Gen.K.lit_accum_coeff_loop2 accumDigits
    rw [lit_first_eq, bind_ok']
    simp only [List.head?_cons, digitVal_eq]
    by_cases hd : digitVal c < 10
    · simp only [hd, decide_true, if_true, lit_skip_1_cons, bind_ok']
      rw [sat_mul_add coeff 10 _ 10 rfl]
      exact accum_digits_loop_eq prof cs F _ (by simpa using h)
    · simp only [hd, decide_false, Bool.false_eq_true, if_false, pure_eq']

theorem lit_accum_coeff_eq (prof : Profile) (s : List Nat) (coeff : Nat) (h : s.length < 2 ^ 64) :
    Gen.K.lit_accum_coeff prof s coeff =
      .ok ((accumCoeff coeff s).2.1, (accumCoeff coeff s).1, (accumCoeff coeff s).2.2) := by
  have hF : s.length < 18446744073709551616 := by simpa using h
  have h1 := (ParseAux.accumChunks_suffix s.length coeff s).length_le
  have h2 := (ParseAux.accumCoeff_suffix coeff s).length_le
  unfold accumCoeff at h2 ⊢
  unfold Gen.K.lit_accum_coeff
  -- `let (coeff, self) ← …` is a `match` on a pair, which `simp only` turns into projections
  simp only [lit_len_eq, bind_ok', accum_chunks_loop_eq prof _ s.length coeff s hF (Nat.le_refl _),
    accum_digits_loop_eq prof _ _ _ (Nat.lt_of_le_of_lt h1 hF), plainU_sub 64 prof h h2, pure_eq']

theorem accum_exp_loop_eq (prof : Profile) : ∀ (s : List Nat) (F : Nat) (exp : Int), s.length < F →
    Gen.K.lit_accum_exp_loop1 prof F exp s = .ok (accumExp exp s)
  | _, 0, _, h => absurd h (Nat.not_lt_zero _)
  | [], F + 1, exp, _ => by
    unfold Gen.K.lit_accum_exp_loop1 accumExp
    rw [lit_first_eq, bind_ok']; rfl
  | c :: cs, F + 1, exp, h => by
    unfold Gen.K.lit_accum_exp_loop1 accumExp
    rw [lit_first_eq, bind_ok']
    simp only [List.head?_cons, digitVal_eq]
    by_cases hd : digitVal c < 10
    · have hdv : IntTy.isize.cast ((digitVal c : Nat) : Int) = ((digitVal c : Nat) : Int) :=
        isize_cast_id (Int.le_trans (by decide) (Int.natCast_nonneg _)) (by omega)
      simp only [hd, decide_true, if_true, lit_skip_1_cons, hdv, ParseAux.expLimit_eq, decide_eq_true_eq, pure_eq', ite_ok, bind_ok']
      exact accum_exp_loop_eq prof cs F _ (by simpa using h)
    · simp only [hd, decide_false, Bool.false_eq_true, if_false, pure_eq']

theorem lit_accum_exp_eq (prof : Profile) (s : List Nat) (exp : Int) (h : s.length < 2 ^ 64) :
    Gen.K.lit_accum_exp prof s exp = .ok ((accumExp exp s).2, (accumExp exp s).1, s.length - (accumExp exp s).2.length) := by
  have hF : s.length < 18446744073709551616 := by simpa using h
  unfold Gen.K.lit_accum_exp
  simp only [lit_len_eq, bind_ok', accum_exp_loop_eq prof s _ exp hF, plainU_sub 64 prof h (ParseAux.accumExp_suffix exp s).length_le,
    pure_eq']

/-- the sign is read the same way in front of the mantissa and of the exponent -/
theorem sign_block (prof : Profile) (c : Nat) (cs : List Nat) :
    (do
      if decide (c = 45) = true then
        let lit ← Gen.K.lit_skip_1 prof (c :: cs)
        pure (true, lit)
      else
        if decide (c = 43) = true then
          let lit ← Gen.K.lit_skip_1 prof (c :: cs)
          pure (false, lit)
        else
          pure (false, c :: cs) : Outcome (Bool × List Nat)) = .ok (Spec.optSign (c :: cs)) := by
  rw [ParseAux.optSign_cons]
  by_cases h1 : c = 45
  · simp [h1, lit_skip_1_cons]
  · by_cases h2 : c = 43 <;> simp [h1, h2, lit_skip_1_cons]

/-- everything after the exponent; `p`: the exponent had no digits (`False` when there is no exponent) -/
theorem tail_eq (prof : Profile) (isNeg : Bool) (coeff2 nFrac : Nat) (exp : Int) (s5 : List Nat) (hn : nFrac < 2 ^ 63)
    (p : Prop) [Decidable p] :
    (if decide p = true then pure (Except.error ParseErr.invalid)
      else
        if (!s5.isEmpty) = true then pure (Except.error ParseErr.invalid)
        else do
          let t23 ← IntTy.isize.plain prof (exp - IntTy.isize.cast ↑nFrac)
          let t24 ← IntTy.isize.plain prof (-t23)
          if decide (t24 > IntTy.isize.cast ↑Gen.MAX_N_FRAC_DIGITS) = true then pure (Except.error ParseErr.fracLimit)
            else
              if isNeg = true then do
                let t25 ← negI128 prof (IntTy.i128.cast ↑coeff2)
                pure (Except.ok (t25, t23))
              else pure (Except.ok (IntTy.i128.cast ↑coeff2, t23)) : Outcome (Except ParseErr (Int × Int))) =
      ParseAux.mTail prof isNeg coeff2 nFrac (if p then .ok (.error .invalid) else .ok (.ok (exp, s5))) := by
  refine ite_congr_iff (ParseAux.mTail prof isNeg coeff2 nFrac) decide_eq_true_iff (fun _ => rfl) fun _ => ?_
  rw [ParseAux.mTail_ok, isize_cast_id (x := (nFrac : Int)) (by omega) (by omega), max_nfrac_isize]
  simp only [decide_eq_true_eq]

/-- `h63` excludes nothing: no Rust slice is longer than `isize::MAX` bytes -/
theorem str_to_dec_eq (prof : Profile) (lit : List Nat) (h63 : lit.length < 2 ^ 63) :
    Gen.K.str_to_dec prof lit = strToDec prof lit := by
  have h : lit.length < 2 ^ 64 := Nat.lt_trans h63 (by decide)
  -- against the model cut into pieces (`ParseAux.strToDec_eq`) both sides are stepped at the head; every remainder of the input
  -- carries its length bound along, since each loop runs on fuel `2^64`
  rw [ParseAux.strToDec_eq]
  unfold Gen.K.str_to_dec
  refine bind_step (lit_new_eq prof lit) (bind_step (lit_first_eq prof lit) ?_)
  cases lit with
  | nil => rfl
  | cons c cs =>
    rw [ParseAux.takeSign_cons]
    refine bind_step (sign_block prof c cs) ?_
    have hs : (Spec.optSign (c :: cs)).2.length < 2 ^ 64 := Nat.lt_of_le_of_lt (ParseAux.optSign_length _) h
    have hs63 : (Spec.optSign (c :: cs)).2.length < 2 ^ 63 := Nat.lt_of_le_of_lt (ParseAux.optSign_length _) h63
    generalize Spec.optSign (c :: cs) = sg at hs hs63 ⊢
    obtain ⟨isNeg, s⟩ := sg
    dsimp only at hs hs63
    unfold ParseAux.mBody
    refine bind_step (lit_is_empty_eq prof s) ?_
    refine ite_congr rfl (fun _ => rfl) fun _ => ?_
    refine bind_step (lit_len_eq prof s) (bind_step (lit_skip_leading_zeroes_eq prof s hs) ?_)
    have hs' : (skipLeadingZeroes s).length < 2 ^ 64 := Nat.lt_of_le_of_lt (ParseAux.skipLeadingZeroes_suffix s).length_le hs
    have hs'63 : (skipLeadingZeroes s).length < 2 ^ 63 := Nat.lt_of_le_of_lt (ParseAux.skipLeadingZeroes_suffix s).length_le hs63
    generalize skipLeadingZeroes s = s' at hs' hs'63 ⊢
    refine bind_step (lit_len_eq prof s') (bind_step (lit_is_empty_eq prof s') ?_)
    refine ite_congr rfl (fun _ => rfl) fun _ => ?_
    refine bind_step (lit_accum_coeff_eq prof s' 0 hs') ?_
    have h1 := (ParseAux.accumCoeff_suffix 0 s').length_le
    have h1c := ParseAux.accumCoeff_count 0 s'
    generalize accumCoeff 0 s' = r1 at h1 h1c ⊢
    obtain ⟨coeff1, s1, nInt⟩ := r1
    dsimp only at h1 h1c
    conv => rhs; dsimp only
    refine bind_step (lit_first_eq prof s1) ?_
    refine bind_step (v := ((ParseAux.mFrac coeff1 s1).2.1, (ParseAux.mFrac coeff1 s1).1, (ParseAux.mFrac coeff1 s1).2.2)) ?_ ?_
    · unfold ParseAux.mFrac
      cases s1 with
      | nil => rfl
      | cons c1 rest =>
        by_cases hc : c1 = 46
        · subst hc
          have hr : rest.length < 2 ^ 64 := Nat.lt_of_le_of_lt (Nat.le_of_succ_le h1) hs'
          simp only [List.head?_cons, decide_true, if_true, lit_skip_1_cons, bind_ok', lit_accum_coeff_eq prof rest coeff1 hr,
            pure_eq']
        · simp [hc]
    · have hf1 := (ParseAux.mFrac_suffix coeff1 s1).length_le
      have hf2 := ParseAux.mFrac_count_le coeff1 s1
      generalize ParseAux.mFrac coeff1 s1 = r2 at hf1 hf2 ⊢
      obtain ⟨coeff2, s2, nFrac⟩ := r2
      dsimp only at hf1 hf2
      refine bind_step (plainU_add 64 prof nInt nFrac (by omega)) ?_
      have hnf : nFrac < 2 ^ 63 := Nat.lt_of_le_of_lt (Nat.le_trans hf2 h1) hs'63
      refine ite_congr_iff id (by rw [Bool.and_eq_true, decide_eq_true_eq]) (fun _ => rfl) fun _ => ?_
      refine ite_congr_iff id (decide_eq_true_iff.trans (gt_u128_cast_max coeff2)) (fun _ => rfl) fun _ => ?_
      dsimp only
      refine bind_step (lit_first_eq prof s2) ?_
      have hs2 : s2.length < 2 ^ 64 := Nat.lt_of_le_of_lt (Nat.le_trans hf1 h1) hs'
      unfold ParseAux.mExp
      cases s2 with
      | nil =>
        refine bind_step (lit_is_empty_eq prof []) ?_
        exact (if_neg (by decide)).symm.trans (tail_eq prof isNeg coeff2 nFrac 0 [] hnf False)
      | cons c2 rest =>
        refine ite_congr_iff (ParseAux.mTail prof isNeg coeff2 nFrac)
          (by rw [Bool.or_eq_true, decide_eq_true_eq, decide_eq_true_eq]) (fun _ => ?_) fun _ => ?_
        · refine bind_step (lit_skip_1_cons prof c2 rest) (bind_step (lit_first_eq prof rest) ?_)
          cases rest with
          | nil => rfl
          | cons c3 rest3 =>
            rw [ParseAux.takeSign_cons]
            refine bind_step (sign_block prof c3 rest3) ?_
            have hs3 : (Spec.optSign (c3 :: rest3)).2.length < 2 ^ 64 :=
              Nat.lt_of_le_of_lt (ParseAux.optSign_length _) (Nat.lt_of_succ_lt hs2)
            generalize Spec.optSign (c3 :: rest3) = sg at hs3 ⊢
            obtain ⟨expNeg, s3⟩ := sg
            simp only [lit_accum_exp_eq prof s3 0 hs3, bind_ok']
            generalize accumExp 0 s3 = r3
            obtain ⟨e3, s4⟩ := r3
            cases expNeg with
            | false =>
              simp only [Bool.false_eq_true, if_false, pure_eq', bind_ok']
              exact tail_eq prof isNeg coeff2 nFrac e3 s4 hnf _
            | true =>
              simp only [if_true]
              cases IntTy.isize.plain prof (-e3) with
              | panic k => rfl
              | ok e =>
                simp only [bind_ok', pure_eq']
                exact tail_eq prof isNeg coeff2 nFrac e s4 hnf _
        · exact tail_eq prof isNeg coeff2 nFrac 0 (c2 :: rest) hnf False

end Fpdec.Kernels
