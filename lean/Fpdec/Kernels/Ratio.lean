import Fpdec.Gen.KRatio
import Fpdec.Kernels.Pow
import Fpdec.Model.Ratio
import Fpdec.Lemmas.RatioL

/-! Tie: the generated translations of `gcd_special` (src/as_integer_ratio.rs; Stein's loop on `i128` values, translated to
fuel-bounded recursion over `Int`) and of `Decimal::as_integer_ratio` / `numerator` / `denominator` equal the hand-written model
(which runs the loop on `Nat`), for every numerator other than `i128::MIN`. -/

namespace Fpdec.Kernels
open Fpdec Fpdec.Model

theorem tzI_nat (v : Nat) (h : v < 2 ^ 128) : Rt.tzI IntTy.i128 (v : Int) = trailingZeros 128 v := by
  unfold Rt.tzI
  rw [show (v : Int) % 2 ^ IntTy.i128.bits = v from Int.emod_eq_of_lt (Int.natCast_nonneg v) (by exact_mod_cast h),
    Int.toNat_natCast]
  rfl

theorem gcd_loop_eq (prof : Profile) : ∀ (F u v : Nat), 0 < u → u < 2 ^ 127 → v < 2 ^ 127 →
    Gen.K.gcd_special_loop1 prof F (v : Int) (u : Int) =
      (match gcdLoop F u v with | none => .panic .other | some g => .ok ((0 : Int), (g : Int)))
  | 0, u, v, _, _, _ => rfl
  | F + 1, u, v, hu, hub, hvb => by
    unfold Gen.K.gcd_special_loop1 gcdLoop
    by_cases hv : v = 0
    · subst hv; rfl
    have hv0 : 0 < v := Nat.pos_of_ne_zero hv
    have hv128 : v < 2 ^ 128 := Nat.lt_trans hvb (by decide)
    have hv'pos := shiftRight_trailingZeros_pos v hv0 hv128
    have hv'le : v >>> trailingZeros 128 v ≤ v := Nat.shiftRight_le _ _
    simp only [ne_eq, Int.natCast_eq_zero, hv, not_false_eq_true, tzI_nat v hv128,
      shrI_ok .i128 prof _ (trailingZeros_lt v hv0 hv128), ← Int.natCast_shiftRight, Int.ofNat_lt, gt_iff_lt, tie]
    generalize v >>> trailingZeros 128 v = v' at hv'pos hv'le
    have sub (a b : Nat) (h : a ≤ b) (hb : b < 2 ^ 127) : plainI128 prof ((b : Int) - a) = .ok ((b - a : Nat) : Int) := by
      rw [← Int.natCast_sub h]
      exact plainI128_ok prof ((fitsI128_iff _).mpr (by unfold I128_MIN I128_MAX; omega))
    by_cases hc : v' < u
    · simp only [hc, if_true, sub v' u (Nat.le_of_lt hc) hub, tie]
      exact gcd_loop_eq prof F v' (u - v') hv'pos (by omega) (by omega)
    · simp only [hc, if_false, sub u v' (Nat.le_of_not_lt hc) (by omega), tie]
      exact gcd_loop_eq prof F u (v' - u) hu hub (by omega)

theorem gcd_special_eq (prof : Profile) (numer : Int) (e : Nat) (hn : I128_MIN < numer ∧ numer ≤ I128_MAX) :
    Gen.K.gcd_special prof numer e = gcdSpecial prof numer e := by
  unfold Gen.K.gcd_special gcdSpecial
  refine bind_congr_post (.assert _) fun _ hn0 => bind_congr_post (.assert _) fun _ he => ?_
  replace hn0 : numer ≠ 0 := of_decide_eq_true hn0
  replace he : e ≤ 38 := of_decide_eq_true he
  have hult : numer.natAbs < 2 ^ 127 := by unfold I128_MIN I128_MAX at hn; omega
  have hupos : 0 < numer.natAbs := by omega
  simp only [abs_ok prof hn]
  generalize numer.natAbs = u at hult hupos
  have hu128 : u < 2 ^ 128 := Nat.lt_trans hult (by decide)
  have hv : (10 ^ e) >>> e < 2 ^ 127 :=
    Nat.lt_of_le_of_lt (Nat.shiftRight_le _ _) (Nat.lt_of_le_of_lt (Nat.pow_le_pow_right (by decide) he) (by decide))
  simp only [tzI_nat u hu128, shrI_ok .i128 prof _ (trailingZeros_lt u hupos hu128),
    wrapU_id 8 e (show e < 2 ^ 8 by omega), Nat.mod_eq_of_lt (show e < 256 by omega), tenPow_ok e he,
    show ((10 : Int) ^ e) = ((10 ^ e : Nat) : Int) from (Int.natCast_pow 10 e).symm,
    shrI_ok .i128 prof _ (show e < 128 by omega), ← Int.natCast_shiftRight, Int.toNat_natCast, tie]
  rw [gcd_loop_eq prof 600 _ _ (shiftRight_trailingZeros_pos u hupos hu128) (Nat.lt_of_le_of_lt (Nat.shiftRight_le _ _) hult) hv]
  cases gcdLoop 600 (u >>> trailingZeros 128 u) ((10 ^ e) >>> e) with
  | none => rfl
  | some g =>
    have hmin : min (trailingZeros 128 u) e < 128 := Nat.lt_of_le_of_lt (Nat.min_le_right _ _) (by omega)
    simp only [shlI_ok .i128 prof _ hmin, Nat.shiftLeft_eq, Int.natCast_mul, Int.natCast_pow, tie]
    rfl

theorem decimal_as_integer_ratio_eq (prof : Profile) (d : Dec) (hc : I128_MIN < d.coeff ∧ d.coeff ≤ I128_MAX) :
    Gen.K.decimal_as_integer_ratio prof d = asIntegerRatio prof d := by
  unfold Gen.K.decimal_as_integer_ratio asIntegerRatio
  simp only [gcd_special_eq prof _ _ hc, tie]

theorem decimal_numerator_eq (prof : Profile) (d : Dec) (hc : I128_MIN < d.coeff ∧ d.coeff ≤ I128_MAX) :
    Gen.K.decimal_numerator prof d = numerator prof d := by
  unfold Gen.K.decimal_numerator numerator
  simp only [gcd_special_eq prof _ _ hc, tie]

theorem decimal_denominator_eq (prof : Profile) (d : Dec) (hc : I128_MIN < d.coeff ∧ d.coeff ≤ I128_MAX) :
    Gen.K.decimal_denominator prof d = denominator prof d := by
  unfold Gen.K.decimal_denominator denominator
  simp only [gcd_special_eq prof _ _ hc, tie]

end Fpdec.Kernels
