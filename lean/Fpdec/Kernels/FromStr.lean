import Fpdec.Gen.KFromStr
import Fpdec.Kernels.Pow
import Fpdec.Model.Parser
import Fpdec.Lemmas.IntTy

/-! Tie: the generated translation of `impl FromStr for Decimal` (src/from_str.rs: everything after the call of the parser
`str_to_dec`, which is referred to through the model) equals the hand-written model `fromStr`. -/

namespace Fpdec.Kernels
open Fpdec Fpdec.Model

theorem max_nfrac_isize : IntTy.isize.cast ((Gen.MAX_N_FRAC_DIGITS : Nat) : Int) = ((Gen.MAX_N_FRAC_DIGITS : Nat) : Int) :=
  isize_cast_id (by decide) (by decide)

theorem decimal_from_str_eq (prof : Profile) (lit : List Nat) :
    Gen.K.decimal_from_str prof lit = fromStr prof lit := by
  unfold Gen.K.decimal_from_str fromStr
  rcases strToDec prof lit with (e | ⟨coeff, exponent⟩) | k
  · rfl
  · cases hn : IntTy.isize.plain prof (-exponent) with
    | panic k => simp only [hn, tie]
    | ok nexp =>
      simp only [hn, max_nfrac_isize, tie]
      refine else_congr (else_congr (else_congr ?_))
      cases checkedMulPowTen coeff (IntTy.u8.cast exponent).toNat <;> rfl
  · rfl

/-- the `Dec!` proc macro as a function of the literal text (after `TokenStream::to_string` and the sign-blank fix-up; a panic of
    the macro = the literal does not compile = `Err`) -/
theorem dec_fold_eq (prof : Profile) (src : List Nat) :
    Gen.K.dec_fold prof (macroStripBlank src) =
      (fun r => r.map (fun d : Dec => (d.coeff, d.nfrac))) <$> macroFold prof src := by
  unfold Gen.K.dec_fold macroFold
  rcases strToDec prof (macroStripBlank src) with (e | ⟨coeff, exponent⟩) | k
  · rfl
  · cases hn : IntTy.isize.plain prof (-exponent) with
    | panic k => simp only [hn, tie]
    | ok nexp =>
      have hz : IntTy.isize.plain prof (-(0 : Int)) = .ok 0 := rfl
      simp only [hn, max_nfrac_isize, tie]
      by_cases h1 : nexp > ↑Gen.MAX_N_FRAC_DIGITS
      · rw [if_pos h1, if_pos h1]; rfl
      rw [if_neg h1, if_neg h1]
      by_cases h2 : exponent > 38
      · rw [if_pos h2, if_pos (show exponent > ↑Gen.FROM_STR_MAX_EXP from h2)]
        by_cases h3 : coeff ≠ 0
        · rw [if_pos h3, if_pos h3]; rfl
        · rw [if_neg h3, if_neg h3, if_neg (Int.lt_irrefl 0), hz]; rfl
      · rw [if_neg h2, if_neg (show ¬ exponent > ↑Gen.FROM_STR_MAX_EXP from h2)]
        by_cases h4 : exponent > 0
        · have hfit : fitsI128 ((10 : Int) ^ exponent.toNat) = true :=
            (fitsI128_iff _).mpr ⟨Int.le_trans (by decide) (Int.le_of_lt (pow10_pos _)), pow10_le_max (by omega)⟩
          simp only [h4, if_true, u32_cast_id (x := exponent) (by omega) (by omega), plainI128_ok prof hfit, hz, tie]
          cases checkedI128 (coeff * (10 : Int) ^ exponent.toNat) <;> rfl
        · simp only [h4, if_false, hn]; rfl
  · rfl

end Fpdec.Kernels
