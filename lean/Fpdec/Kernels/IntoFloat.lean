import Fpdec.Gen.KIntoFloat
import Fpdec.Kernels.Basic
import Fpdec.Model.Float
import Fpdec.Lemmas.Bits

/-! Tie: the generated translations of `Float::from_decimal` (src/into_float.rs, instantiated for `f64`: `FRACTION_BITS = 52`,
`EXP_BIAS = 1023`, `BITS = 64`, and for `f32`: 23, 127, 32, `from_bits(bits as u32)`) equal the hand-written model
`fromDecimal prof .f64` / `.f32`.  The two translations differ in those constants only: `kFromDecimal` is their common text with the
constants as parameters (both are instances of it by `rfl`), and the tie is proved once, for any format. -/

namespace Fpdec.Kernels
open Fpdec Fpdec.Model

theorem shl128_eq (prof : Profile) (x s : Nat) : Rt.shl 128 prof x s = shlU128 prof x s := rfl

theorem n_signif_bits_eq (prof : Profile) (v : Nat) : Gen.K.n_signif_bits prof v = .ok (nSignifBits v) := by
  unfold Gen.K.n_signif_bits nSignifBits
  have := lz_le v
  rw [plainU32_ok prof (n := 128 - leadingZeros 128 v) (by omega) (by omega)]

/-- `from_decimal` of src/into_float.rs as the translator prints it, with the three constants of the `Float` impl
    (`FRACTION_BITS`, `EXP_BIAS`, `BITS`) and the final `from_bits` conversion left as parameters -/
def kFromDecimal (fb : Nat) (bias : Int) (nbits : Nat) (fin : Nat → Nat) (prof : Profile) (d : Model.Dec) : Outcome Nat := do
  let t1 ← Rt.plainU 32 prof ((fb : Int) + 3)
  let add_bits : Nat := t1
  let num : Nat := (Int.natAbs ((d).coeff))
  let t2 ← plainU128 prof (((10 : Nat) : Int) ^ ((d).nfrac))
  let den : Nat := t2
  let num_lz : Nat := (leadingZeros 128 (num))
  let den_lz : Nat := (leadingZeros 128 (den))
  let t3 ← Rt.plainU 32 prof ((num_lz : Int) + add_bits)
  let num_shl : Nat := (Rt.sat 32 (((t3) : Int) - den_lz))
  let den_shl : Nat := (Rt.sat 32 (((Rt.sat 32 ((den_lz : Int) - num_lz)) : Int) - add_bits))
  let t4 ← Rt.shl 128 prof (num) (num_shl)
  let num : Nat := t4
  let t5 ← Rt.shl 128 prof (den) (den_shl)
  let den : Nat := t5
  let t6 ← Rt.divU (num) (den)
  let quot : Nat := t6
  let t7 ← Rt.remU (num) (den)
  let rem : Nat := t7
  let t8 ← Gen.K.n_signif_bits prof (quot)
  let adj : Nat := (if ((decide (t8 = add_bits))) = true then 1 else 0)
  let t9 ← Rt.index (Gen.FLT_MASK_EXTRA_BITS) (adj)
  let t10 ← Rt.shl 32 prof (((Rt.wrapU 32 ((((quot) &&& (t9))))))) ((Rt.wrapU 32 (adj)))
  let rnd : Nat := t10
  let rnd : Nat := ((rnd) ||| ((if ((decide (rem ≠ 0))) = true then 1 else 0)))
  let t11 ← Rt.plainU 32 prof ((3 : Int) - (Rt.wrapU 32 (adj)))
  let t12 ← Rt.shr 128 prof (quot) ((t11))
  let signif : Nat := (Rt.wrapU 64 ((t12)))
  let t13 ← IntTy.i32.plain prof ((IntTy.i32.cast (((den_lz) : Nat) : Int)) - (IntTy.i32.cast (((num_lz) : Nat) : Int)))
  let t14 ← IntTy.i32.plain prof (t13 - (IntTy.i32.cast (((adj) : Nat) : Int)))
  let exp : Int := t14
  let t15 ← IntTy.i32.plain prof (bias + exp)
  let t16 ← IntTy.i32.plain prof (t15 - 1)
  let t17 ← Rt.shl 64 prof (((IntTy.u64.cast ((t16))).toNat)) (fb)
  let t18 ← Rt.plainU 64 prof ((signif : Int) + (t17))
  let bits : Nat := t18
  let t19 ← Rt.plainU 64 prof ((bits : Int) + (if (((decide (rnd > 4) || (decide (rnd = 4) && decide ((Rt.wrapU 32 ((((signif) &&& (1))))) = 1))))) = true then 1 else 0))
  let bits : Nat := t19
  let t20 ← Rt.plainU 32 prof ((nbits : Int) - 1)
  let t21 ← Rt.shl 64 prof (((if ((decide ((d).coeff < 0))) = true then 1 else 0))) ((t20))
  let bits : Nat := ((bits) ||| (t21))
  pure (fin bits)

theorem kFromDecimal_eq (f : Spec.FloatFmt) (fin : Nat → Nat) (hfb : f.fracBits ≤ 60) (hbits : f.bits ≤ 64)
    (hfin : ∀ x, x < 2 ^ 64 → fin x = x % 2 ^ f.bits) (prof : Profile) (d : Dec) :
    kFromDecimal f.fracBits f.bias f.bits fin prof d = fromDecimal prof f d := by
  unfold kFromDecimal fromDecimal
  have hnb1 : 1 ≤ f.bits := by unfold Spec.FloatFmt.bits; omega
  generalize f.fracBits = fb at hfb ⊢
  generalize f.bits = nb at hbits hfin hnb1 ⊢
  refine bind_step (plainU32_add prof fb 3 (Nat.lt_of_le_of_lt (Nat.add_le_add_right hfb 3) (by decide))) ?_
  refine bind_congr _ fun den => ?_
  dsimp only
  rw [show Gen.FLT_EXTRA_BITS = 3 from rfl]
  have hn := lz_le d.coeff.natAbs
  have hd := lz_le den
  generalize leadingZeros 128 d.coeff.natAbs = nlz at hn ⊢
  generalize leadingZeros 128 den = dlz at hd ⊢
  have hb : nlz + (fb + 3) < 4294967296 ∧ dlz < 4294967296 ∧ dlz - nlz < 4294967296 := by omega
  refine bind_step (plainU32_add prof nlz (fb + 3) hb.1) ?_
  rw [sat_sub 32 dlz (show nlz + (fb + 3) < 2 ^ 32 from hb.1), sat_sub 32 nlz (show dlz < 2 ^ 32 from hb.2.1),
    sat_sub 32 (fb + 3) (show dlz - nlz < 2 ^ 32 from hb.2.2), shl128_eq, shl128_eq]
  refine bind_congr _ fun num' => bind_congr _ fun den' => ?_
  by_cases hz : den' = 0
  · subst hz; rw [if_pos rfl]; rfl
  refine (bind_step (divU_eq _ _ hz) (bind_step (remU_eq _ _ hz) (bind_step (n_signif_bits_eq ..) ?_))).trans (if_neg hz).symm
  simp only [decide_eq_true_eq, Bool.or_eq_true, Bool.and_eq_true]
  generalize num' / den' = q
  generalize num' % den' = r
  generalize hav : (if nSignifBits q = fb + 3 then 1 else 0 : Nat) = a
  have ha : a ≤ 1 := by rw [← hav]; split <;> omega
  unfold Rt.index
  cases hmask : Gen.FLT_MASK_EXTRA_BITS[a]? with
  | none => rfl
  | some mask =>
    have hmask7 : mask ≤ 7 := by
      have := (by decide : ∀ a ≤ 1, Gen.FLT_MASK_EXTRA_BITS[a]?.getD 0 ≤ 7) a ha
      rwa [hmask] at this
    have hm0 : q &&& mask ≤ 7 := Nat.le_trans Nat.and_le_right hmask7
    have hsh : (q &&& mask) <<< a ≤ 14 := by
      rw [Nat.shiftLeft_eq]
      exact Nat.mul_le_mul hm0 (Nat.pow_le_pow_right (by decide) ha)
    have i32 {n : Nat} (h : n ≤ 128) : IntTy.i32.cast (n : Int) = n := i32_cast_id (by omega) (by omega)
    simp only [Rt.wrapU, Nat.mod_eq_of_lt (Nat.lt_of_le_of_lt ha (by decide : 1 < 2 ^ 32)),
      Nat.mod_eq_of_lt (Nat.lt_of_le_of_lt hm0 (by decide : 7 < 2 ^ 32)),
      shl_ok 32 prof _ (Nat.lt_of_le_of_lt ha (by decide : 1 < 32)),
      Nat.mod_eq_of_lt (Nat.lt_of_le_of_lt hsh (by decide : 14 < 2 ^ 32)),
      plainU32_ok prof (x := (3 : Int) - (a : Int)) (Int.natCast_sub (Nat.le_trans ha (by decide : 1 ≤ 3))).symm
        (Nat.lt_of_le_of_lt (Nat.sub_le 3 a) (by decide)),
      shr_ok 128 prof q (Nat.lt_of_le_of_lt (Nat.sub_le 3 a) (by decide : 3 < 128)),
      i32 hd, i32 hn, i32 (Nat.le_trans ha (by decide)), tie]
    refine bind_congr _ fun e0 => bind_congr _ fun e0' => bind_congr _ fun e1 => bind_congr _ fun e2 => ?_
    have u64 (x : Int) : Rt.plainU 64 prof x = Int.toNat <$> IntTy.u64.plain prof x := plainU_eq_plain .u64 rfl prof x
    have hite (c : Prop) [Decidable c] : (if c then (1 : Int) else 0) = ((if c then 1 else 0 : Nat) : Int) := by split <;> rfl
    have hsl : (if d.coeff < 0 then 1 else 0 : Nat) <<< (nb - 1) < 2 ^ 64 := by
      split
      · rw [Nat.one_shiftLeft]; exact Nat.pow_lt_pow_right (by decide) (by omega)
      · rw [Nat.zero_shiftLeft]; exact Nat.two_pow_pos _
    simp only [shl_ok 64 prof _ (Nat.lt_of_le_of_lt hfb (by decide : 60 < 64)), Rt.wrapU, u64, bind_map, Nat.and_one_is_mod,
      Nat.mod_eq_of_lt (Nat.lt_trans (Nat.mod_lt _ (by decide : 0 < 2)) (by decide : 2 < 2 ^ 32)), hite,
      show Gen.FLT_TIE = 4 from rfl,
      plainU32_ok prof (x := (nb : Int) - 1) (Int.natCast_sub hnb1).symm
        (Nat.lt_of_le_of_lt (Nat.sub_le nb 1) (Nat.lt_of_le_of_lt hbits (by decide))),
      shl_ok 64 prof _ (Nat.lt_of_lt_of_le (Nat.sub_lt hnb1 Nat.one_pos) hbits),
      Nat.mod_eq_of_lt hsl, tie]
    refine bind_congr_post (plain_fits .u64 (by decide) prof _) fun b1 hb1 => ?_
    rw [Int.toNat_of_nonneg ((IntTy.fits_iff _ _).mp hb1).1]
    refine bind_congr_post (plain_fits .u64 (by decide) prof _) fun b2 hb2 => ?_
    have hb2' : b2.toNat < 2 ^ 64 := by
      have h1 : b2 ≤ 18446744073709551615 := ((IntTy.fits_iff _ _).mp hb2).2
      omega
    rw [hfin _ (Nat.or_lt_two_pow hb2' hsl)]

theorem f64_from_decimal_eq (prof : Profile) (d : Dec) :
    Gen.K.f64_from_decimal prof d = fromDecimal prof Spec.FloatFmt.f64 d :=
  kFromDecimal_eq .f64 (fun b => b) (by decide) (by decide) (fun _ h => (Nat.mod_eq_of_lt h).symm) prof d

theorem f32_from_decimal_eq (prof : Profile) (d : Dec) :
    Gen.K.f32_from_decimal prof d = fromDecimal prof Spec.FloatFmt.f32 d :=
  kFromDecimal_eq .f32 (Rt.wrapU 32) (by decide) (by decide) (fun _ _ => rfl) prof d

end Fpdec.Kernels
