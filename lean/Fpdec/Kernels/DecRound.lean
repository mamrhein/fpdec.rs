import Fpdec.Gen.KDecRound
import Fpdec.Model.Decimal
import Fpdec.Kernels.Round

/-! Tie: the generated translations of `impl Round for Decimal` (`round`, `checked_round`; src/round.rs) equal the model. -/

namespace Fpdec.Kernels
open Fpdec Fpdec.Model

theorem decimal_checked_round_eq (prof : Profile) (tm : Mode) (d : Dec) (n : Int) (hd : fitsI128 d.coeff = true) :
    Gen.K.decimal_checked_round prof tm d n = checkedRound prof tm d n := by
  unfold Gen.K.decimal_checked_round checkedRound roundCore Gen.ROUND_MAX_SHIFT Gen.ROUND_SIGNUM_DIVISOR
  simp only [i128_div_rounded_eq prof tm _ 3 none (sign_fits d.coeff), i128_div_rounded_eq prof tm d.coeff _ none hd, tie]
  refine else_congr (bind_congr _ fun lim => ite_congr rfl (fun _ => ?_) fun _ => ?_)
  · refine bind_congr _ fun c => else_congr ?_
    cases checkedMulPowTen c n.natAbs <;> rfl
  · refine bind_congr _ fun sh => bind_congr _ fun dv => bind_congr _ fun c => else_congr ?_
    refine bind_congr _ fun m => bind_congr _ fun t => ?_
    cases checkedI128 (c * t) <;> rfl

theorem decimal_round_eq (prof : Profile) (tm : Mode) (d : Dec) (n : Int) (hd : fitsI128 d.coeff = true) :
    Gen.K.decimal_round prof tm d n = round prof tm d n := by
  unfold Gen.K.decimal_round round
  refine Eq.trans ?_ (bind_panicOnNone _).symm
  unfold roundCore Gen.ROUND_MAX_SHIFT Gen.ROUND_SIGNUM_DIVISOR
  simp only [i128_div_rounded_eq prof tm _ 3 none (sign_fits d.coeff), i128_div_rounded_eq prof tm d.coeff _ none hd, tie]
  refine else_congr (bind_congr _ fun lim => ite_congr rfl (fun _ => ?_) fun _ => ?_)
  · refine bind_congr _ fun c => else_congr ?_
    cases checkedMulPowTen c n.natAbs <;> rfl
  · refine bind_congr _ fun sh => bind_congr _ fun dv => bind_congr _ fun c => else_congr ?_
    refine bind_congr _ fun m => bind_congr _ fun t => ?_
    cases checkedI128 (c * t) <;> rfl

end Fpdec.Kernels
